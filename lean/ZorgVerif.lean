import ZorgVerif.Gen.Consts
import ZorgVerif.Gen.FileLexer
import ZorgVerif.Gen.QueryLexer
import ZorgVerif.Model.Action
import ZorgVerif.Model.ActionSpec
import ZorgVerif.Model.Basic
import ZorgVerif.Model.Crash
import ZorgVerif.Model.Date
import ZorgVerif.Model.Exec
import ZorgVerif.Model.Filter
import ZorgVerif.Model.Groups
import ZorgVerif.Model.Index
import ZorgVerif.Model.Lexer
import ZorgVerif.Model.Move
import ZorgVerif.Model.NoteText
import ZorgVerif.Model.Query
import ZorgVerif.Model.QuerySyn
import ZorgVerif.Model.Refuse
import ZorgVerif.Model.Rename
import ZorgVerif.Model.Saved
import ZorgVerif.Model.Sql
import ZorgVerif.Model.Template
import ZorgVerif.Model.Zid
import ZorgVerif.Model.Zo
import ZorgVerif.Lemmas.Basic
import ZorgVerif.Lemmas.Action
import ZorgVerif.Lemmas.Crash
import ZorgVerif.Lemmas.Date
import ZorgVerif.Lemmas.Exec
import ZorgVerif.Lemmas.Identity
import ZorgVerif.Lemmas.Index
import ZorgVerif.Lemmas.Lexer
import ZorgVerif.Lemmas.Move
import ZorgVerif.Lemmas.NoteText
import ZorgVerif.Lemmas.QueryParse
import ZorgVerif.Lemmas.Rename
import ZorgVerif.Lemmas.SqlRefines
import ZorgVerif.Lemmas.Zid
import ZorgVerif.Lemmas.ZidAlloc
import ZorgVerif.Lemmas.Zo
import ZorgVerif.Props.C01
import ZorgVerif.Props.C02
import ZorgVerif.Props.C03
import ZorgVerif.Props.C04
import ZorgVerif.Props.C05
import ZorgVerif.Props.C06
import ZorgVerif.Props.C07
import ZorgVerif.Props.C07Lex
import ZorgVerif.Props.C08
import ZorgVerif.Props.C09
import ZorgVerif.Props.C10
import ZorgVerif.Props.C11
import ZorgVerif.Props.C12
import ZorgVerif.Props.C13
import ZorgVerif.Props.C14
import ZorgVerif.Props.C15
import ZorgVerif.Props.C16
import ZorgVerif.Props.C17
import ZorgVerif.Props.C18
