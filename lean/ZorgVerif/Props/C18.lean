import ZorgVerif.Model.Groups
import ZorgVerif.Lemmas.Basic
/-!
# C18 — File-group expansion flattens groups in place and in order
Model: `Model/Groups.lean` (`expand`, `expandArg`, `expandMembers`; the member formatter `f` is a
parameter — `str.format` — instantiated by `fmt today` on the modelled fragment).
-/
namespace ZorgVerif.C18
open ZorgVerif ZorgVerif.Groups

variable (m : GroupMap) (f : Str → Except Err Str)

/-- sequential composition in `Except`, as the Python loops do (first error wins, in order) -/
def seq2 (a b : Except Err (List Str)) : Except Err (List Str) := do
  let x ← a
  let y ← b
  pure (x ++ y)

theorem nil_seq2 (b : Except Err (List Str)) : seq2 (.ok []) b = b := by
  cases b <;> rfl

theorem seq2_nil (a : Except Err (List Str)) : seq2 a (.ok []) = a := by
  cases a <;> first | rfl | exact congrArg Except.ok (List.append_nil _)

theorem seq2_assoc (a b c : Except Err (List Str)) : seq2 (seq2 a b) c = seq2 a (seq2 b c) := by
  cases a <;> cases b <;> cases c <;> first | rfl | exact congrArg Except.ok (List.append_assoc ..)

/-- Expanding a concatenation of argument lists equals concatenating their expansions. -/
theorem C18_append (fuel : Nat) (xs ys : List Str) :
    expand m f fuel (xs ++ ys) = seq2 (expand m f fuel xs) (expand m f fuel ys) := by
  induction xs with
  | nil => exact (nil_seq2 _).symm
  | cons a rest ih =>
    show seq2 _ (expand m f fuel (rest ++ ys)) = seq2 (seq2 _ _) _
    rw [ih, seq2_assoc]

theorem group_or_plain (a : Str) : (∃ n, a = '@' :: n) ∨ a.head? ≠ some '@' := by
  cases a with
  | nil => simp
  | cons c cs => by_cases h : c = '@' <;> simp [h]

theorem expand_singleton (fuel : Nat) (a : Str) : expand m f fuel [a] = expandArg m f fuel a := seq2_nil _

theorem expandArg_group (fuel : Nat) (g : Str) :
    expandArg m f (fuel + 1) ('@' :: g) =
      match lookup m g with
      | none => .error (.keyError g)
      | some members => expandMembers m f fuel members := rfl

/-- Ordinary paths are left untouched (and are not formatted). -/
theorem C18_plain (fuel : Nat) (a : Str) (h : a.head? ≠ some '@') :
    expand m f (fuel + 1) [a] = .ok [a] := by
  rw [expand_singleton, expandArg]
  rintro n rfl
  exact h rfl

/-- A group argument is replaced by the expansion of its members. -/
theorem C18_group (fuel : Nat) (g : Str) :
    expand m f (fuel + 1) [('@' :: g)] =
      match lookup m g with
      | none => .error (.keyError g)
      | some members => expandMembers m f fuel members :=
  (expand_singleton m f _ _).trans (expandArg_group m f fuel g)

/-- Members expand in place and in order: `@sub` members recursively, others through the formatter. -/
theorem C18_members_cons_group (rec : Str → Except Err (List Str)) (n : Str) (rest : List Str) :
    expandMembersWith rec f (('@' :: n) :: rest) =
      seq2 (rec ('@' :: n)) (expandMembersWith rec f rest) := rfl

theorem C18_members_cons_plain (rec : Str → Except Err (List Str)) (a : Str) (rest : List Str)
    (h : a.head? ≠ some '@') :
    expandMembersWith rec f (a :: rest) =
      (do let x ← f a; let y ← expandMembersWith rec f rest; pure (x :: y)) := by
  rw [expandMembersWith]
  rintro n rfl
  exact h rfl

variable {rec rec' : Str → Except Err (List Str)}

/-- the recursive call is consulted at the `@` members only -/
theorem expandMembersWith_congr (members : List Str)
    (h : ∀ n, ('@' :: n) ∈ members → rec ('@' :: n) = rec' ('@' :: n)) :
    expandMembersWith rec f members = expandMembersWith rec' f members := by
  induction members with
  | nil => rfl
  | cons a rest ih =>
    have ih := ih fun n hn => h n (List.mem_cons_of_mem _ hn)
    rcases group_or_plain a with ⟨n, rfl⟩ | ha
    · rw [C18_members_cons_group, C18_members_cons_group, h n List.mem_cons_self, ih]
    · rw [C18_members_cons_plain f _ _ _ ha, C18_members_cons_plain f _ _ _ ha, ih]

theorem bind2_ne_error {α β γ : Type} {e : Err} {x : Except Err α} {y : Except Err β} (g : α → β → γ)
    (hx : x ≠ .error e) (hy : y ≠ .error e) : (do let a ← x; let b ← y; pure (g a b)) ≠ .error e := by
  cases x with
  | error _ => intro h; cases h; exact hx rfl
  | ok a =>
    cases y with
    | error _ => intro h; cases h; exact hy rfl
    | ok b => exact nofun

theorem expandMembersWith_ne_fuel (hf : ∀ s, f s ≠ .error .fuel)
    (members : List Str) (h : ∀ n, ('@' :: n) ∈ members → rec ('@' :: n) ≠ .error .fuel) :
    expandMembersWith rec f members ≠ .error .fuel := by
  induction members with
  | nil => simp [expandMembersWith]
  | cons a rest ih =>
    have ih := ih fun n hn => h n (List.mem_cons_of_mem _ hn)
    rcases group_or_plain a with ⟨n, rfl⟩ | ha
    · exact bind2_ne_error _ (h n List.mem_cons_self) ih
    · rw [C18_members_cons_plain f _ _ _ ha]
      exact bind2_ne_error _ (hf a) ih

/-- Acyclicity witnessed by a depth function: every `@sub` member of a group is strictly shallower. -/
def Acyclic (dep : Str → Nat) : Prop :=
  ∀ g members, lookup m g = some members → ∀ n, ('@' :: n) ∈ members → dep n < dep g

/-- For an acyclic map, recursion depth `dep g + 1` suffices: more fuel changes nothing and the fuel
error (Python: RecursionError) never occurs. -/
theorem C18_fuel (dep : Str → Nat) (hac : Acyclic m dep) (hf : ∀ s, f s ≠ .error .fuel) :
    ∀ (fuel : Nat) (g : Str), dep g < fuel →
      expandArg m f fuel ('@' :: g) ≠ .error .fuel ∧
      ∀ k, expandArg m f (fuel + k) ('@' :: g) = expandArg m f fuel ('@' :: g) := by
  intro fuel
  induction fuel with
  | zero => intro g h; omega
  | succ fuel ih =>
    intro g hg
    simp only [Nat.add_right_comm fuel 1, expandArg_group]
    cases hl : lookup m g with
    | none => exact ⟨nofun, fun _ => rfl⟩
    | some members =>
      -- the sub-groups among the members are shallower, so the induction hypothesis speaks of them
      have hd : ∀ n, ('@' :: n) ∈ members → dep n < fuel := fun n hn => by
        have := hac g members hl n hn; omega
      exact ⟨expandMembersWith_ne_fuel f hf members fun n hn => (ih n (hd n hn)).1,
        fun k => expandMembersWith_congr f members fun n hn => (ih n (hd n hn)).2 k⟩

theorem field_yyyymmdd (today : Date) (c : Char) (h : (isDigit c && digitVal c < 7) = true) :
    field today ['y', 'y', 'y', 'y', 'm', 'm', 'd', 'd', '[', c, ']'] =
      .ok (Date.fmtYmd (Date.subDays (digitVal c) today)) := if_pos h

theorem field_days (today : Date) (c : Char) (spec : Str) (h : (isDigit c && digitVal c < 7) = true) :
    field today ('d' :: 'a' :: 'y' :: 's' :: '[' :: c :: ']' :: ':' :: spec) =
      strftime (Date.subDays (digitVal c) today) spec := if_pos h

theorem strftime_Ymd (t : Date) : strftime t ['%', 'Y', '%', 'm', '%', 'd'] = .ok (Date.fmtYmd t) := by
  show Except.ok (padNat 4 t.y ++ (padNat 2 t.m ++ (padNat 2 t.d ++ []))) = _
  rw [List.append_nil, ← List.append_assoc]; rfl

/-- Member patterns receive today's and the previous six days' dates. -/
theorem C18_dates (today : Date) (i : Nat) (hi : i < 7) :
    field today ("yyyymmdd[".toList ++ [digitChar i] ++ "]".toList) = .ok (Date.fmtYmd (Date.subDays i today)) ∧
    field today ("days[".toList ++ [digitChar i] ++ "]:%Y%m%d".toList) = .ok (Date.fmtYmd (Date.subDays i today)) := by
  have hv : digitVal (digitChar i) = i := by rw [digitVal_digitChar]; omega
  have h : (isDigit (digitChar i) && digitVal (digitChar i) < 7) = true := by simp [isDigit_digitChar, hv, hi]
  simp only [toList_lit rfl]
  exact ⟨(field_yyyymmdd today _ h).trans (by rw [hv]),
    (field_days today _ _ h).trans (by rw [strftime_Ymd, hv])⟩

/-! Non-vacuity: a concrete acyclic map with a shared sub-group. -/
def exMap : GroupMap := [("a".toList, ["@b".toList, "x".toList, "@c".toList]), ("b".toList, ["@c".toList, "y".toList]), ("c".toList, ["z".toList])]
example : expand exMap (fun s => .ok s) 3 ["p".toList, "@a".toList] =
    .ok ["p".toList, "z".toList, "y".toList, "x".toList, "z".toList] := by
  unfold exMap
  simp only [toList_lit rfl]
  rfl

end ZorgVerif.C18
