import ZorgVerif.Lemmas.QueryParse
import ZorgVerif.Lemmas.Date
import ZorgVerif.Gen.QueryLexer
/-!
# C04 — Query text is compiled into the structure its syntax denotes

`Model/Query.lean`: generated query lexer (`Gen.QueryLexer.rules`, translated from the ATN that runs) +
recursive descent over tokens + the listener's semantic actions.  `Model/QuerySyn.lean`: syntax trees
with tokens at the leaves, `toks` (rendering) and `denote` (the structure the syntax spells).
-/
namespace ZorgVerif.C04
open ZorgVerif ZorgVerif.Query ZorgVerif.Lex

/-- **Main theorem** (token level): for every well-formed syntax tree — any select form, filter tree of
any shape and depth, both clause orders — compiling its rendering yields exactly its denotation, errors
(impossible dates) included.  Read right-to-left it is the round trip "render then compile". -/
theorem C04_denotes (dflt : Defaults) (today : Date) (q : QSyn) (h : q.wf = true) :
    parseToks dflt today q.toks = q.denote dflt today := by
  -- the fuel of `parseToks` covers the filter and the ORDER BY clause; after that it is a variable, so that
  -- unfolding `parseToks` does not compute with the token count
  have hfuel := q.fuel_le
  have hol : orderLen q.order ≤ 3 * q.toks.length + 4 := by
    have := orderLen_le q.order q.group q.groupFirst
    rw [q.toks_eq, List.length_append, List.length_append]
    omega
  generalize hF : 3 * q.toks.length + 4 = F at hfuel hol
  rw [q.toks_eq] at hF ⊢
  obtain ⟨sel, wh, order, group, gf⟩ := q
  simp only [QSyn.wf, Bool.and_eq_true] at h
  obtain ⟨⟨hsw, hw⟩, hg⟩ := h
  -- `W …`, `S …`, `S … W …`: one equation of `parseToks` each
  rcases sel with _ | s <;> rcases wh with _ | ⟨f, alts⟩
  · cases hsw
  · exact (parseToks_W dflt today hF.symm).trans
      (where_denotes dflt today F none f alts order group gf hw (hfuel f alts rfl) hol hg)
  · exact (parseToks_S dflt today hF.symm
        (parseSelectBody_spec s (ogToks order group gf) (peekIs_colon_whToks none order group gf))
        (orStop_ogToks order group gf).1.2).trans
      (finish_ok dflt F _ none order group gf hol hg)
  · exact (parseToks_SW dflt today hF.symm
        (parseSelectBody_spec s (whToks true (some (f, alts)) ++ ogToks order group gf) (peekIs_colon_whToks _ order group gf))).trans
      (where_denotes dflt today F (some s) f alts order group gf hw (hfuel f alts rfl) hol hg)

/-- the WHERE clause alone: juxtaposition = one and-filter, `|` = alternatives, parentheses nest -/
theorem C04_where (dflt : Defaults) (today : Date) (first : List ItemSyn) (alts : List (List ItemSyn))
    (h : (andWf first && orWf alts) = true) :
    parseToks dflt today ([tk "'W'" "W", sp] ++ orToks (first :: alts)) =
      (orDenote today (first :: alts)).map (fun o => ⟨dflt.select, some o, dflt.orderBy, dflt.groupBy⟩) := by
  rw [show [tk "'W'" "W", sp] ++ orToks (first :: alts) = (QSyn.mk none (some (first, alts)) none none false).toks by
      simp [QSyn.toks], C04_denotes dflt today _ (by simpa [QSyn.wf] using h)]
  simp only [QSyn.denote]
  cases orDenote today (first :: alts) <;> rfl

/-- omitted S / O / G clauses take the defaults (here: whatever `dflt` is; the driver instantiates it
with the *generated* `Query()` defaults of `Gen/Consts.lean`) -/
theorem C04_defaults (dflt : Defaults) (today : Date) (first : List ItemSyn) (alts : List (List ItemSyn))
    (h : (andWf first && orWf alts) = true) (q : Query)
    (hq : parseToks dflt today ([tk "'W'" "W", sp] ++ orToks (first :: alts)) = .ok q) :
    q.select = dflt.select ∧ q.orderBy = dflt.orderBy ∧ q.groupBy = dflt.groupBy := by
  rw [C04_where dflt today first alts h] at hq
  revert hq
  cases orDenote today (first :: alts) <;> intro hq <;> cases hq
  exact ⟨rfl, rfl, rfl⟩

/-- compile a query *text*: generated lexer, then the parser -/
def compileText (dflt : Defaults) (today : Date) (s : Str) : Except Err Query :=
  parseToks dflt today (lex Gen.QueryLexer.rules s)

def dflt0 : Defaults := ⟨.field .note, [], []⟩
def day0 : Date := ⟨2024, 1, 1⟩

/-- the priorities of a query that is a single and-filter with a single atom -/
def singlePriorities : Except Err Query → Option (List Nat)
  | .ok ⟨_, some [AndF.mk [.priorities ps] []], _, _⟩ => some ps
  | _ => none

def spellingOk (n : Nat) (m : Option Nat) : Bool :=
  let txt : Str := "W P".toList ++ [digitChar n] ++ (match m with | some m => ['-', digitChar m] | none => [])
  singlePriorities (compileText dflt0 day0 txt) == some (match m with | some m => (List.range (m + 1)).drop n | none => [n])

/-- `Pn` for n = 0..9 and `Pn-m` for every ascending pair with 1 ≤ m ≤ 9: 64 spellings, each lexed by the
generated DFAs and parsed — a finite table checked by the kernel (re-checked whenever the lexer changes) -/
theorem C04_priority_spellings :
    (List.range 10).all (fun n => spellingOk n none &&
      ((List.range 10).filter (fun m => decide (n ≤ m ∧ 1 ≤ m))).all (fun m => spellingOk n (some m))) = true := by
  decide +kernel

/-- `Pn-m` denotes every priority from n to m inclusive (as a statement about the expansion) -/
theorem C04_priority_range (n m : Nat) (k : Nat) : k ∈ prioritiesOf n (some m) ↔ n ≤ k ∧ k ≤ m := by
  simp only [prioritiesOf, List.range_eq_range', List.drop_range', List.mem_range'_1]
  omega

/-- a relative spec `Nd` / `Nm` / `Ny` (no sign) means today plus N days / months / years -/
theorem C04_relative_future (today : Date) (n : Str) (hn : allDigits n = true) (hne : n ≠ []) :
    fromRelative today (n ++ ['d']) = (let d := Date.addDays (natOfDigits n) today; if d.valid then .ok d else .error (.valueError "date out of range")) ∧
    fromRelative today (n ++ ['m']) = (let d := Date.addMonths (natOfDigits n) today; if d.valid then .ok d else .error (.valueError "date out of range")) ∧
    fromRelative today (n ++ ['y']) = (let d := Date.addYears (natOfDigits n) today; if d.valid then .ok d else .error (.valueError "date out of range")) := by
  have hdig : ∀ c ∈ n, lowerAscii c = c ∧ c ≠ '-' := by
    intro c hc
    have hd : '0' ≤ c ∧ c ≤ '9' := by simpa [isDigit] using List.all_eq_true.1 hn c hc
    refine ⟨if_neg fun h => absurd (Char.le_trans h.1 hd.2) (by decide), ?_⟩
    rintro rfl
    exact absurd hd.1 (by decide)
  have hlow : n.map lowerAscii = n :=
    (List.map_congr_left fun c hc => (hdig c hc).1).trans (List.map_id n)
  -- one unfolding for any lower-case unit character; the three units are instances
  have key : ∀ u : Char, lowerAscii u = u → fromRelative today (n ++ [u]) =
      (match (if u == 'd' then some (Date.addDays (natOfDigits n) today)
          else if u == 'm' then some (Date.addMonths (natOfDigits n) today)
          else some (Date.addYears (natOfDigits n) today)) with
       | some d => if d.valid then .ok d else .error (.valueError "date out of range")
       | none => .error (.valueError "date out of range")) := by
    intro u hu
    unfold fromRelative
    simp only [List.map_append, hlow, List.map_cons, List.map_nil, hu]
    obtain ⟨c, cs, rfl⟩ := List.exists_cons_of_ne_nil hne
    simp only [List.cons_append, List.cons.injEq, (hdig c List.mem_cons_self).2, false_and, imp_self, implies_true,
      List.reverse_cons, List.reverse_append, List.reverse_nil, List.nil_append, beq_iff_eq, Bool.false_eq_true,
      if_false, List.reverse_reverse]
    rfl
  exact ⟨key 'd' rfl, key 'm' rfl, key 'y' rfl⟩

/-- end-of-month clamping and calendar arithmetic of `Nm`; holds of every `t` (`Date.addMonths_spec`): `h` is not used -/
theorem C04_months_clamp (n : Nat) (t : Date) (h : t.valid = true) :
    let r := Date.addMonths n t
    r.y * 12 + (r.m - 1) = t.y * 12 + (t.m - 1) + n ∧ 1 ≤ r.m ∧ r.m ≤ 12 ∧ r.d = min t.d (Date.daysIn r.y r.m) :=
  Date.addMonths_spec n t

/-- a range without end is the single start day (what `DateRange(start, None)` is compared against is
stated in C03: `end or start`) ; an absolute short date denotes itself -/
theorem C04_short_date (t : Date) (h : t.valid = true) (h1 : 2000 ≤ t.y) (h2 : t.y ≤ 2099) (today : Date) :
    fromDateSpec today (Date.fmtShort t) = .ok t := by
  have hl := Date.fmtShort_length t
  have hp := Date.parseShort_fmtShort t h h1 h2
  have hd : allDigits (Date.fmtShort t) = true := by
    simp only [Date.fmtShort_eq, allDigits, List.all_append, all_isDigit_padNat, Bool.and_self]
  simp [fromDateSpec, isShortDateSpec, hl, hd, hp]

/-- value types are inferred from the value -/
theorem C04_value_type (v : Str) :
    (valueType v = .date ↔ isDateSpec v = true) ∧
    (valueType v = .integer ↔ isDateSpec v = false ∧ allDigits v = true) ∧
    (valueType v = .string ↔ isDateSpec v = false ∧ allDigits v = false) := by
  unfold valueType
  cases h1 : isDateSpec v <;> cases h2 : allDigits v <;> simp

/-! ## Non-vacuity: a concrete query text through lexer + parser -/
example : (compileText dflt0 day0 "S count(note) W (o | x P1-3) #foo !@bar | - G type # O create".toList).toOption.isSome = true := by
  simp only [toList_lit rfl]
  decide +kernel

end ZorgVerif.C04

#print axioms ZorgVerif.C04.C04_denotes
#print axioms ZorgVerif.C04.C04_where
