import ZorgVerif.Lemmas.Identity
import ZorgVerif.Lemmas.Zo
import ZorgVerif.Gen.FileLexer
import ZorgVerif.Model.Refuse
/-!
# C08 — Indexing never crashes on any file and never silently drops a broken one  *(partial)*

What Lean carries: (i) the listener's string processing is total — for **every** event list and body no
branch of the model raises (the `.crash` constructors of `Zo.Err` are unreachable in `identity`, `addEv`,
`bulletProps`); (ii) the flag / refusal decision logic.  That the ANTLR runtime terminates and which
texts it reports as erroneous is sampled by the correspondence run, not proved.
-/
namespace ZorgVerif.C08
open ZorgVerif ZorgVerif.Zo ZorgVerif.Refuse

/-- identity words never crash: six-digit words, ZIDs and long dates that are not real dates are words -/
theorem C08_identity_total (evs : List Ev) : ∃ r, identity evs = .ok r :=
  identity_go_ok evs 0 0 none none none

/-- metadata events never crash (impossible long dates are ignored) -/
theorem C08_events_total (q : Bool) (sc : Scope) (tt tp td : Bool) (ev : Ev) : ∃ sc', addEv q sc tt tp td ev = .ok sc' :=
  addEv_ok q sc tt tp td ev

/-- the bullet-property scan never crashes, whatever the body (empty bullets, bullets that hold only a
date or a ZID, `::` anywhere) -/
theorem C08_bullets_total (body : Str) : ∃ r, bulletProps body = .ok r := by
  simp only [bulletProps]
  -- three folds in a row, each over a step that cannot fail
  refine Except.bind_ok (List.foldlM_ok (fun acc b => ?_) _ _) fun any2 =>
    Except.bind_ok (List.foldlM_ok (fun acc b => ?_) _ _) fun any3 => List.foldlM_ok (fun acc bullet => ?_) _ _
  · split <;> exact ⟨_, rfl⟩
  · split <;> exact ⟨_, rfl⟩
  · split <;> (try split) <;> exact ⟨_, rfl⟩

/-- no parser error ⇒ the page is not flagged (and the compiler model keeps every item, C01) -/
theorem C08_noerr (items : Nat) : flagged 0 items = false := by simp [flagged]

/-- a flagged page is refused by `db create` unless it is whitelisted or `-f` is given; by `db reindex`
unless whitelisted; it is never indexed as an ordinary page -/
theorem C08_refuse (wl force : Bool) :
    (createDecision true wl force = .refuse ↔ (wl = false ∧ force = false)) ∧
    (reindexDecision true wl = .refuse ↔ wl = false) ∧
    createDecision true wl force ≠ .index ∧ reindexDecision true wl ≠ .index := by
  cases wl <;> cases force <;> simp [createDecision, reindexDecision]

/-- an unflagged page is indexed -/
theorem C08_index (wl force : Bool) : createDecision false wl force = .index ∧ reindexDecision false wl = .index := by
  simp [createDecision, reindexDecision]

/-- what holds of the flag (`…_partial`): the page is flagged iff the parser reported an error **and** the
listener reached a note … -/
theorem C08_flag_partial (errs items : Nat) : flagged errs items = true ↔ (0 < errs ∧ 0 < items) := by
  simp [flagged]

/-- **Negative result** (known finding C08.unflagged_broken_page_without_notes): the full statement
"syntax error ⇒ flagged" fails for pages on which no note is reached. -/
theorem C08_flag_counterexample : flagged 3 0 = false ∧ createDecision (flagged 3 0) false false = .index := by
  decide

/-! Non-vacuity: the formerly crashing inputs (impossible dates, `::` inside an inline property, empty bullet) compile in the
model, through the generated lexer -/
private def compileText (s : String) : Except Err PageResult :=
  compileToks ⟨2024, 6, 15⟩ "P3".toList ((Lex.lex Gen.FileLexer.rules s.toList).filter (·.name != "<err>"))

example : (match compileText "# T\n\n- 241399 impossible date word\no P1 240230#00 impossible zid\n- [a::b::c] odd\n  * \n" with
    | .ok r => r.notes.map (fun (n : Note) => (n.line, n.zid.map Str.toStr, n.props.map (fun (kv : Str × Str) => (Str.toStr kv.1, Str.toStr kv.2))))
    | .error _ => [(0, none, [])]) = [(3, none, []), (4, none, []), (5, none, [("a", "b::c")])] := by
  rw [compileText]
  simp only [toList_lit rfl]
  decide +kernel

end ZorgVerif.C08

#print axioms ZorgVerif.C08.C08_identity_total
