import ZorgVerif.Lemmas.Basic
import ZorgVerif.Model.Template
/-!
# C16 — Template initialisation never overwrites existing files
Model: `Model/Template.lean`.  `render` (jinja2 on the pre-processed template) and the `re.match`
results are parameters; the theorems hold for every instantiation of them.
-/
namespace ZorgVerif.C16
open ZorgVerif ZorgVerif.Template

theorem firstMatch_append (pre rest : List PatResult) (hpre : ∀ p ∈ pre, p.groups = none) :
    firstMatch (pre ++ rest) = firstMatch rest := by
  induction pre with
  | nil => rfl
  | cons p pre ih =>
    have ⟨hp, hpre⟩ := List.forall_mem_cons.1 hpre
    rw [List.cons_append, firstMatch, hp]
    exact ih hpre

variable (render : Str → Vars → Str)

/-- An existing file is left byte-identical unless overwriting was explicitly requested. -/
theorem C16_no_clobber (pats : List PatResult) (explicit : Option Str) (vars : Vars) (c : Str) :
    step render false pats explicit vars (some c) = some c := rfl

/-- …and the decision itself is `noop` (nothing is rendered, no directory is created). -/
theorem C16_no_clobber_action (pats : List PatResult) (explicit : Option Str) (vars : Vars) :
    init true false pats explicit vars = .noop := rfl

/-- The first matching pattern wins, whatever comes after it and whatever explicit template was given;
its captured groups are merged into the variable map. -/
theorem C16_first_match (ex ow : Bool) (h : (ex && !ow) = false) (pre post : List PatResult)
    (hpre : ∀ p ∈ pre, p.groups = none) (t : Str) (g : Vars) (explicit : Option Str) (vars : Vars) :
    init ex ow (pre ++ ⟨some g, t⟩ :: post) explicit vars = .write t (merge vars g) := by
  simp only [init, h, firstMatch_append pre _ hpre]
  rfl

/-- No pattern matches and no explicit template: nothing is written. -/
theorem C16_no_match (ex ow : Bool) (pats : List PatResult) (h : ∀ p ∈ pats, p.groups = none) (vars : Vars)
    (c : Option Str) :
    init ex ow pats none vars = .noop ∧ step render ow pats none vars c = c := by
  have hi : ∀ ex, init ex ow pats none vars = .noop := fun ex => by
    rw [init, ← pats.append_nil, firstMatch_append pats [] h]
    exact ite_self _
  exact ⟨hi ex, by rw [step, hi]⟩

/-- Doing it twice equals doing it once (with or without overwrite). -/
theorem C16_idempotent (ow : Bool) (pats : List PatResult) (explicit : Option Str) (vars : Vars) (c : Option Str) :
    step render ow pats explicit vars (step render ow pats explicit vars c) = step render ow pats explicit vars c := by
  -- the decision looks at the content only to see whether there is any; what it would write is the same
  have e : ∀ c, step render ow pats explicit vars c =
      match (if (c.isSome && !ow) = true then .noop else init false ow pats explicit vars) with
      | .noop => c
      | .write t vs => some (render t vs) := fun _ => rfl
  simp only [e]
  generalize init false ow pats explicit vars = w
  cases c <;> cases ow <;> cases w <;> rfl

/-- captured variables override given ones with the same key and keep the others -/
theorem C16_merge_lookup (vars : Vars) (k v : Str) : (update vars k v).lookup k = some v := by
  induction vars with
  | nil => simp [update]
  | cons p rest ih =>
    obtain ⟨a, b⟩ := p
    by_cases h : a = k
    · subst h; simp [update]
    · rw [update, if_neg h, List.lookup_cons, beq_false_of_ne (Ne.symm h)]
      exact ih

/-! Non-vacuity -/
example : init false false [⟨none, "a.zot".toList⟩, ⟨some [("date".toList, "20240102".toList)], "b.zot".toList⟩,
    ⟨some [], "c.zot".toList⟩] (some "x.zot".toList) [("date".toList, "old".toList), ("k".toList, "v".toList)] =
    .write "b.zot".toList [("date".toList, "20240102".toList), ("k".toList, "v".toList)] := by
  simp only [toList_lit rfl]
  decide +kernel
example : build "# T {{x}}\n# more\n\n## Heading {{date}}\nbody\n##\n### keep\n".toList =
    "# Heading {{date}}\nbody\n#\n### keep\n".toList := by
  simp only [toList_lit rfl]
  decide +kernel

end ZorgVerif.C16
