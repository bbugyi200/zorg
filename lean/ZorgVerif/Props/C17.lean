import ZorgVerif.Gen.Consts
import ZorgVerif.Lemmas.Action
/-! # C17 — `action open` offers and opens exactly the link targets on the line

Model: `Model/Action.lean` (`run_action_open`: the word scan with its `found_primary_zid` state variable, the
PROMPT / option protocol, `_open_link` dispatch with the index lookups as parameters).
Spec: `Model/ActionSpec.lean` (`specTargets`: skip the prefix words; the first other word is left out iff it is
the note's own bare ZID; from then on every word offers its target). -/
namespace ZorgVerif.C17
open ZorgVerif ZorgVerif.Action

/-- **Targets** — for every line (any words, any prefix shape, `.zo` or `.zoq`) the scan of the implementation
yields exactly the targets of the statement, in line order. -/
theorem C17_targets (vd : Str → Bool) (isZoq : Bool) (line : Str) :
    targets vd isZoq line = specTargets vd isZoq 0 ((splitOn ' ' line).map (stripSet "(),.?!;:".toList)) :=
  targets_eq_spec vd isZoq line

/-- once the body has started, every word offers its target: nothing is skipped, nothing invented -/
theorem C17_body_words (vd : Str → Bool) (isZoq : Bool) (i : Nat) (ws : List Str) :
    scan vd isZoq i true ws = ws.filterMap (wordTarget vd) := scan_found vd isZoq i ws

/-- in a `.zoq` page (and for the first word of any line) a ZID is never treated as primary -/
theorem C17_zoq_all_zids (vd : Str → Bool) (i : Nat) (w : Str) : isPrimary vd true i w = false := by
  simp [isPrimary]

/-- **Protocol** — every answer line starts with EDIT, SEARCH, PROMPT or ECHO, for every target list, option and index -/
theorem C17_protocol (zdir : Str) (lk : Lookup) (ts : List Target) (n : Nat) (opt : Option Int) :
    ∀ l ∈ (respond zdir lk ts n opt).lines, isProtocol l = true :=
  List.all_eq_true.mp (respond_protocol zdir lk ts n opt)

/-- one target is opened directly, whatever the option -/
theorem C17_single (zdir : Str) (lk : Lookup) (t : Target) (n : Nat) (opt : Option Int) :
    respond zdir lk [t] n opt = openLink zdir lk t := rfl

/-- several targets are offered through PROMPT, in line order -/
theorem C17_prompt (zdir : Str) (lk : Lookup) (ts : List Target) (n : Nat) (h : 2 ≤ ts.length) :
    respond zdir lk ts n none = ⟨["PROMPT ".toList ++ joinWith [' '] (ts.map Target.text)], 0⟩ :=
  match ts, h with
  | _ :: _ :: _, _ => rfl

/-- **Option k** opens the same thing as a line containing only the k-th target (any line number / option there) -/
theorem C17_option (zdir : Str) (lk : Lookup) (ts : List Target) (n n' : Nat) (k : Nat) (h : 2 ≤ ts.length)
    (hk1 : 1 ≤ k) (hk : k ≤ ts.length) (opt' : Option Int) :
    ∃ t, ts[k - 1]? = some t ∧ respond zdir lk ts n (some (k : Int)) = respond zdir lk [t] n' opt' := by
  have hlt : k - 1 < ts.length := by omega
  refine ⟨ts[k - 1], List.getElem?_eq_getElem hlt, ?_⟩
  rw [respond_some zdir lk h, if_neg (by omega), if_pos (by omega), show ((k : Int) - 1).toNat = k - 1 by omega,
    List.getElem?_eq_getElem hlt]
  rfl

/-- … and "a line containing only the k-th target" offers exactly that target: for every target whose text is one
already-stripped word (what the scan produces), the line `- solo <target>` has the target list `[t]` — so by `C17_option` and
`C17_single`, choosing option k answers exactly like running `action open` on that one-target line. -/
theorem C17_solo_line (vd : Str → Bool) (isZoq : Bool) (t : Target)
    (hsp : ' ' ∉ t.text) (hst : stripSet "(),.?!;:".toList t.text = t.text)
    (ht : (∃ w, t = .word w ∧ isLinkWord w = true) ∨
          (∃ z, t = .zid z ∧ isZid vd z = true ∧ isLinkWord z = false ∧ stripSet ['[', ']'] z = z)) :
    targets vd isZoq ("- solo ".toList ++ t.text) = [t] := by
  rw [solo_line vd isZoq t.text hsp hst]
  rcases ht with ⟨w, rfl, hl⟩ | ⟨z, rfl, hz, hl, hbr⟩
  · simp [wordTarget, Target.text, hl]
  · simp [wordTarget, Target.text, hl, hbr, hz]

/-- option -1 opens the last target -/
theorem C17_option_last (zdir : Str) (lk : Lookup) (ts : List Target) (n n' : Nat) (h : 2 ≤ ts.length) (opt' : Option Int) :
    ∃ t, ts.getLast? = some t ∧ respond zdir lk ts n (some (-1)) = respond zdir lk [t] n' opt' := by
  have hne : ts ≠ [] := by rintro rfl; simp at h
  refine ⟨ts.getLast hne, List.getLast?_eq_some_getLast hne, ?_⟩
  rw [respond_some zdir lk h, if_pos rfl, List.getLast?_eq_some_getLast hne]
  rfl

/-- any other option fails without output -/
theorem C17_option_out_of_range (zdir : Str) (lk : Lookup) (ts : List Target) (n : Nat) (k : Int) (h : 2 ≤ ts.length)
    (hk : k = 0 ∨ k < -1 ∨ (ts.length : Int) < k) : respond zdir lk ts n (some k) = ⟨[], 1⟩ := by
  rw [respond_some zdir lk h, if_neg (by omega)]
  by_cases h1 : 1 ≤ k
  · rw [if_pos h1, List.getElem?_eq_none (by omega)]
  · rw [if_neg h1]

/-- **Page links**: `[[p]]` opens page p under the notes directory -/
theorem C17_page_link (zdir : Str) (lk : Lookup) (p : Str) (hp : '#' ∉ p) :
    openLink zdir lk (.word ("[[".toList ++ p ++ "]]".toList)) = ⟨["EDIT ".toList ++ fullPath zdir p], 0⟩ := by
  rw [openLink_page zdir lk _ (wrapped ..), splitOn_of_not_mem '#' _ (by simp [hp])]
  simp

/-- `[[p#a]]` opens page p and searches for anchor a -/
theorem C17_page_anchor_link (zdir : Str) (lk : Lookup) (p a : Str) (hp : '#' ∉ p) (ha : '#' ∉ a) :
    openLink zdir lk (.word ("[[".toList ++ p ++ ['#'] ++ a ++ "]]".toList)) =
      ⟨["EDIT ".toList ++ fullPath zdir p, "SEARCH LID::".toList ++ a], 0⟩ := by
  have e : "[[".toList ++ p ++ ['#'] ++ a ++ "]]".toList = "[[".toList ++ (p ++ ['#'] ++ a) ++ "]]".toList := by
    simp only [List.append_assoc]
  have e' : "[[".toList ++ p ++ ['#'] ++ a ++ "]]".toList = ("[[".toList ++ p) ++ '#' :: (a ++ "]]".toList) := by
    simp
  rw [openLink_page zdir lk _ (e ▸ wrapped ..), e', splitOn_append_sep _ _ _ (by simp [hp]),
    splitOn_of_not_mem _ _ (by simp [ha])]
  simp

/-- **ZID targets** open the page of the indexed note that owns the ZID (and nothing when no note owns it) -/
theorem C17_zid (vd : Str → Bool) (zdir : Str) (lk : Lookup) (z : Str) (hz : isZid vd z = true) (hl : isLinkWord z = false) :
    openLink zdir lk (.zid z) = match lk.zidPage z with
      | some page => ⟨["EDIT ".toList ++ fullPath zdir page, "SEARCH \\s\\zs".toList ++ z], 0⟩
      | none => ⟨[], 1⟩ := by
  obtain ⟨h1, h3, h4⟩ : pageForm z = false ∧ idForm z = false ∧ ridForm z = false := by
    obtain ⟨c, rest, rfl, hc⟩ := isZid_head_digit vd z hz
    exact forms_of_head_ne (by rintro ⟨rfl⟩; exact absurd hc (by decide))
  simp only [isLinkWord, Bool.or_eq_false_iff] at hl
  exact openLink_other zdir lk z h1 hl.1.1.1.1.2 h3 h4

/-- **ID targets** open the one page whose notes carry the ID -/
theorem C17_id_link (zdir : Str) (lk : Lookup) (v page : Str) (hv : ∀ c ∈ v, c ≠ '^' ∧ c ≠ '[')
    (h : dedupSorted (lk.idPages v) = [page]) :
    openLink zdir lk (.word ("[#".toList ++ v ++ "]".toList)) =
      ⟨["EDIT ".toList ++ fullPath zdir page, "SEARCH ID::".toList ++ v ++ searchEnd], 0⟩ := by
  have hc : '^' ∉ "[#".toList ++ v ++ "]".toList := by simpa using fun h => (hv _ h).1 rfl
  rw [openLink_id zdir lk _ (id := v) rfl (localForm_of_not_mem hc) (wrapped ..) (by simp), h]

/-- … and that page is a page of a note carrying the ID (the de-duplication neither adds nor drops pages) -/
theorem C17_id_pages (xs : List Str) (x : Str) : x ∈ dedupSorted xs ↔ x ∈ xs := by
  induction xs with
  | nil => simp [dedupSorted]
  | cons y ys ih =>
    rw [show dedupSorted (y :: ys) = dedupSorted.go y (dedupSorted ys) from rfl, dedupSorted_go_mem, ih, List.mem_cons]

/-- **RID targets** open the page of the one note carrying the RID -/
theorem C17_rid_link (zdir : Str) (lk : Lookup) (v page : Str) (hv : ∀ c ∈ v, c ≠ '^' ∧ c ≠ '[') (h : lk.ridPages v = [page]) :
    openLink zdir lk (.word ("[@".toList ++ v ++ "]".toList)) =
      ⟨["EDIT ".toList ++ fullPath zdir page, "SEARCH RID::".toList ++ v ++ searchEnd], 0⟩ := by
  have hc : '^' ∉ "[@".toList ++ v ++ "]".toList := by simpa using fun h => (hv _ h).1 rfl
  rw [openLink_rid zdir lk _ (rid := v) rfl (localForm_of_not_mem hc) rfl (wrapped ..) (by simp), h]

/-- **Source constants** (regenerated from /repo on every run, `Gen/Consts.lean`): the punctuation stripped from words, the ZID
brackets, the local-link mark, the search suffix and the "nothing to open" message of `_run_action.py` are the ones the model uses -/
theorem C17_source_constants :
    Gen.actionStripSets = ["(),.?!;:", "[]"] ∧ Gen.actionLocalLinkLeftMark = "[^" ∧
    Gen.actionSearchEnd.toList = searchEnd ∧
    (respond [] ⟨fun _ => none, fun _ => [], fun _ => []⟩ [] 7 none).lines =
      ["ECHO ".toList ++ Gen.actionNothingMsg.toList ++ " #7".toList] := by
  refine ⟨rfl, rfl, rfl, ?_⟩
  rw [Gen.actionNothingMsg, respond]
  simp only [toList_lit rfl]
  decide +kernel

/-! Non-vacuity: concrete lines (kernel-evaluated). -/
private def vd : Str → Bool := fun _ => true
example : (targets vd false "o P1 240612 240101#aa 240202#bb see [240303#cc], [[page#top]] and ([#gid]).".toList).map Target.text
    = ["240202#bb", "240303#cc", "[[page#top]]", "[#gid]"].map String.toList := by
  simp only [toList_lit rfl]
  decide +kernel
example : (targets vd true "- 240101#aa x".toList).map Target.text = ["240101#aa".toList] := by
  simp only [toList_lit rfl]
  decide +kernel
example : (targets vd false "- 240101#aa x".toList) = [] := by
  simp only [toList_lit rfl]
  decide +kernel

end ZorgVerif.C17
