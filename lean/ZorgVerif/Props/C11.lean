import ZorgVerif.Lemmas.Identity
import ZorgVerif.Lemmas.NoteText
import ZorgVerif.Lemmas.Date
/-!
# C11 — Modification dates are stamped on exactly the notes that were edited
Model: `Model/NoteText.lean` — `isStamped` (the decision of `_check_for_modified_notes`),
`addOrUpdateModifyDate`, `updateLines`.
-/
namespace ZorgVerif.C11
open ZorgVerif ZorgVerif.NoteText

/-- **iff**: a freshly compiled note is stamped exactly when it carries a ZID that the previous index
state of the page already had, its body or todo state differs from that state, and it is not already
dated today. -/
theorem C11_iff (today : Date) (old : List NoteState) (n : NoteState) :
    isStamped today old n = true ↔ ∃ z o, n.zid = some z ∧
      old.find? (fun o => o.zid == some z) = some o ∧ sameNote n o = false ∧ n.mdate ≠ today := by
  unfold isStamped
  cases hz : n.zid with
  | none => simp
  | some z =>
    cases ho : old.find? (fun o => o.zid == some z) with
    | none => simp [ho]
    | some o => simp [ho, Date.bne_iff]

/-- a new note (no ZID, or a ZID the old page did not have) and an unchanged note are never stamped -/
theorem C11_not_stamped (today : Date) (old : List NoteState) (n : NoteState) :
    (n.zid = none → isStamped today old n = false) ∧
    (∀ z o, n.zid = some z → old.find? (fun o => o.zid == some z) = some o → sameNote n o = true → isStamped today old n = false) ∧
    (n.mdate = today → isStamped today old n = false) := by
  refine ⟨?_, ?_, ?_⟩
  · intro h; simp [isStamped, h]
  · intro z o hz ho hs; simp [isStamped, hz, ho, hs]
  · intro h
    rw [← Bool.not_eq_true, C11_iff]
    exact fun ⟨_, _, _, _, _, hne⟩ => hne h

/-- **the stamp goes in front of the ZID**: the date is inserted right after the kind / priority prefix
(replacing an older six-digit stamp), everything else on the line is kept -/
theorem C11_stamp_position (date : Str) (k j : Nat) (sym : Str) (prio body : List Str) (h : Shape sym prio j body)
    (hsp : ∀ w ∈ shapeWords k sym prio j body, ' ' ∉ w) :
    addOrUpdateModifyDate date (joinSp (shapeWords k sym prio j body)) =
      .ok (shapePre k sym prio ++ date ++ [' '] ++ joinSp (dropLeading isSixDigits body)) :=
  addOrUpdateModifyDate_of_words date _ h (splitOn_joinSp _ (by simp [shapeWords]) hsp)

/-- **File and index agree on the stamped first line**: the body `_check_for_modified_notes` stores in the index
(`stampedBody`) is exactly what follows the prefix in the line `_add_or_update_modify_date` writes
(`C11_stamp_position`) — for every body whose first word is not blank and, when it is six digits, is a real date
(a note that is stamped carries its ZID in identity position, so a six-digit first word is its old stamp). -/
theorem C11_index_body_agrees (date : Str) (o n : NoteState) (body : List Str) (hn : n.body = joinSp body)
    (hb : body ≠ []) (hsp : ∀ w ∈ body, ' ' ∉ w)
    (hh : ∀ w, body.head? = some w → (∃ c cs, w = c :: cs ∧
      (c == ' ' || c == '\t' || c == '\n' || c == '\r' || c == '\x0b' || c == '\x0c') = false) ∧
      (isSixDigits w = Query.isShortDateSpec w)) :
    stampedBody date o n = date ++ [' '] ++ joinSp (dropLeading isSixDigits body) := by
  cases body with
  | nil => exact absurd rfl hb
  | cons w r =>
    obtain ⟨⟨c, cs, hw, hc⟩, hd6⟩ := hh w rfl
    obtain ⟨t, ht⟩ : ∃ t, joinSp (w :: r) = c :: t := by
      subst hw; exact ⟨_, joinWith_consChar [' '] c cs r⟩
    unfold stampedBody
    have hd : (joinSp (w :: r)).dropWhile pyWs = joinSp (w :: r) := by
      rw [ht]; exact List.dropWhile_cons_of_neg (Bool.eq_false_iff.mp hc)
    simp only [hn, hd]
    rw [splitOn_joinSp (w :: r) (by simp) hsp]
    simp only [dropLeading, List.headD_cons, List.drop_succ_cons, List.drop_zero, ← hd6]
    cases isSixDigits w <;> simp

/-- **The written stamp is read back**: a line whose first words after the prefix are a six-digit date and the ZID (what
`C11_stamp_position` writes) compiles to a note with that modify date, that ZID and the ZID's creation date, whatever follows -/
theorem C11_written_stamp_is_read (s z : Str) (md cd : Date) (hs : Zo.isShortDate s = true) (hsd : Date.parseShort s = some md)
    (hz : Zo.isZid z = true) (hd : Date.parseShort (z.take 6) = some cd) (rest : List Zo.Ev) :
    Zo.identity (.word :: .id s :: .word :: .id z :: rest) = .ok (some md, some z, some cd) := by
  simp only [Zo.identity, Zo.identity.go]
  simp [hs, hsd, Zo.isShortDate_of_isZid hz, hz, hd,
    Zo.identity_go_settled rest 2 2 _ _ _ (.inr (.inl (Nat.le_refl 2)))]

/-- re-stamping on a later day replaces the old stamp (no stamps pile up) -/
theorem C11_restamp (d1 d2 : Str) (k j : Nat) (sym : Str) (prio body : List Str) (h : Shape sym prio j body)
    (hsp : ∀ w ∈ shapeWords k sym prio j body, ' ' ∉ w) (hd1 : isSixDigits d1 = true) (l1 : Str)
    (h1 : addOrUpdateModifyDate d1 (joinSp (shapeWords k sym prio j body)) = .ok l1) :
    addOrUpdateModifyDate d2 l1 = addOrUpdateModifyDate d2 (joinSp (shapeWords k sym prio j body)) := by
  rw [C11_stamp_position d1 k j sym prio body h hsp] at h1
  rw [C11_stamp_position d2 k j sym prio body h hsp, ← Except.ok.inj h1]
  exact addOrUpdateModifyDate_stamped d1 d2 k sym prio _ h.sym_ne h.prio_ok
    (hsp sym (by simp [shapeWords])) (fun p hp => hsp p (by simp [shapeWords, hp])) hd1

/-- **every other note's lines stay byte-identical** -/
theorem C11_others_untouched (f : Str → Str → Except Err Str) (us : List Upd) (ls ls' : List Str)
    (h : updateLines f us ls = .ok ls') :
    ls'.length = ls.length ∧ ∀ i, (∀ u ∈ us, u.lineNo - 1 ≠ i) → ls'[i]? = ls[i]? :=
  updateLines_spec f us ls ls' h

/-! Non-vacuity -/
example : (addOrUpdateModifyDate "240616".toList "o P1 240101 240615#00 x".toList).toOption = some ("o P1 240616 240615#00 x".toList) := by
  simp only [toList_lit rfl]
  decide +kernel
example : (addOrUpdateModifyDate "240616".toList "- 240615#00 first edit".toList).toOption = some ("- 240616 240615#00 first edit".toList) := by
  simp only [toList_lit rfl]
  decide +kernel

end ZorgVerif.C11
