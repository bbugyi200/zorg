import ZorgVerif.Gen.Consts
import ZorgVerif.Lemmas.NoteText
import ZorgVerif.Lemmas.Move
/-!
# C10 — `note move` relocates exactly one note and loses nothing
Model: `Model/NoteText.lean` — `FileManager.add_note` / `delete_note` on the list of lines of a page
(`text.split("\n")`), as repaired (see known_findings.json).
-/
namespace ZorgVerif.C10
open ZorgVerif ZorgVerif.NoteText

/-- **Source page**: exactly the lines of the moved note are removed — the block starts at the first line
that carries the ZID *in identity position* (no earlier line does, so a line that merely mentions the ZID
is never taken), has the length of the note's body, and every other line is kept in order. -/
theorem C10_source (lines : List Str) (zid : Str) (n : Nat) (r : List Str) (h : deleteNote lines zid n = some r) :
    ∃ i, r = lines.take i ++ lines.drop (i + n) ∧
      isFirstLineOf zid (lines.getD i []) = true ∧ (∀ j, j < i → isFirstLineOf zid (lines.getD j []) = false) ∧
      r.length + min n (lines.length - i) = lines.length := by
  obtain ⟨i, _, h2, h3, h4, h5⟩ := deleteNote_spec lines zid n r h
  exact ⟨i, h2, h3, h4, h5⟩

/-- **Destination page**: the note is added once and no existing line is lost or changed, whatever the
page looks like (ending with a note, with or without trailing newline, header only, empty).  `k` is the
insertion index; either the note is appended after line `k` (all lines up to `k` kept, nothing after
them), or it takes the place of the blank line `k` (all lines before `k` kept, all lines after `k` kept,
shifted by the length of the note text). -/
theorem C10_dest (lines n : List Str) :
    let k := (insertionIndex lines).1
    (lines ≠ [] → k < lines.length) ∧ (∀ i, i < k → (addNote lines n)[i]? = lines[i]?) ∧
    ((lines.take (k + 1) <+: addNote lines n ∧ (addNote lines n)[k]? = lines[k]? ∧ k + 1 ≥ lines.length) ∨
     (isBlankLine (lines.getD k []) = true ∧ addNote lines n = lines.take k ++ n ++ lines.drop (k + 1) ∧
        ∀ i, k < i → (addNote lines n)[i + n.length - 1]? = lines[i]?)) := by
  intro k
  refine ⟨insertionIndex_lt lines, ?_⟩
  rcases addNote_cases lines n with ⟨hl, sep, he⟩ | ⟨hb, he⟩ <;> rw [he]
  · -- appended to the whole page, whose last line is line `k`
    rw [List.append_assoc]
    have hget : ∀ i, i ≤ k → (lines ++ (sep ++ n))[i]? = lines[i]? :=
      fun i hi => List.getElem?_append_left (by omega)
    exact ⟨fun i hi => hget i (Nat.le_of_lt hi), .inl ⟨(List.take_prefix _ _).trans (List.prefix_append _ _),
      hget k (Nat.le_refl _), Nat.le_of_eq hl.symm⟩⟩
  · have hk : k ≤ lines.length := insertionIndex_le lines
    refine ⟨fun i hi => getElem?_splice_left lines n k (k + 1) i hi hk, .inr ⟨hb, rfl, fun i hi => ?_⟩⟩
    obtain ⟨m, rfl⟩ := Nat.exists_eq_add_of_lt hi
    -- line `k + m + 1` of the page is line `k + m + 1 + n.length - 1 = k + n.length + m` of the result
    rw [Nat.add_right_comm _ 1, Nat.add_sub_cancel, Nat.add_right_comm k m, Nat.add_right_comm k m]
    exact getElem?_splice_right lines n k (k + 1) m hk

/-- **No character of the destination is lost**: the only line `add_note` ever takes away is an EMPTY line (`""`),
never a line of spaces — such a line is a continuation line of the note above it (repair a9: before it, a
whitespace-only line inside the destination's last note was replaced by the moved note and the rest of that note
was cut off).  So the destination's lines are all kept, in order, except for at most one empty line whose place the
note takes. -/
theorem C10_dest_only_empty_line_replaced (lines n : List Str) :
    let k := (insertionIndex lines).1
    (lines.take (k + 1) <+: addNote lines n ∧ k + 1 ≥ lines.length) ∨
    (lines.getD k [] = [] ∧ addNote lines n = lines.take k ++ n ++ lines.drop (k + 1)) := by
  intro k
  rcases (C10_dest lines n).2.2 with ⟨hp, _, hl⟩ | ⟨hb, he, _⟩
  · exact Or.inl ⟨hp, hl⟩
  · refine Or.inr ⟨?_, he⟩
    simpa [isBlankLine, List.isEmpty_iff] using hb

/-- the page of the repaired defect: the last note of the destination has an indented blank line; the moved note
goes after the whole note (the page does not end with a newline here), nothing is cut off -/
example :
    addNote ["- 240101#00 first line".toList, "  ".toList, "  second para".toList] ["- 240102#00 mover".toList, []] =
      ["- 240101#00 first line".toList, "  ".toList, "  second para".toList, "- 240102#00 mover".toList, []] := by
  simp only [toList_lit rfl]
  decide +kernel

/-- and with a trailing newline the note takes the place of the final empty line -/
example :
    addNote ["- 240101#00 first line".toList, "  ".toList, "  second para".toList, []] ["- 240102#00 mover".toList, []] =
      ["- 240101#00 first line".toList, "  ".toList, "  second para".toList, "- 240102#00 mover".toList, []] := by
  simp only [toList_lit rfl]
  decide +kernel

/-! ## The moved note carries its inherited metadata explicitly
Model: `Model/Move.lean` — `_add_hidden_metadata` (every tag the index knows for the note and that is no word of
its body, every property whose `key::` does not occur in the body, inserted after the ZID) and the text handed
to `add_note`.  Hypotheses: the ZID occurs in the body and every occurrence ends a word (the indexed body starts
with `ZID ` or `date ZID `), tag / property words contain no whitespace and no trailing punctuation. -/
open ZorgVerif.Move in
/-- every tag of the note is a word of the moved text — also those it only inherited from its page and sections -/
theorem C10_tags_explicit (body zid : Str) (m : Move.Meta) (hz : zid ≠ []) (hzw : Move.NoWs zid)
    (he : Move.ZidEndsWords zid body) (ho : Move.occurs zid body = true)
    (hm : ∀ w ∈ Move.missingWords body m, Move.NoWs w ∧ w ≠ [])
    (hs : ∀ w ∈ Move.missingWords body m, Move.stripTagWord w = w) :
    (∀ t ∈ m.projects, Move.bodyHasTag (Move.addHiddenMetadata body zid m) ('+' :: t) = true) ∧
    (∀ t ∈ m.areas,    Move.bodyHasTag (Move.addHiddenMetadata body zid m) ('#' :: t) = true) ∧
    (∀ t ∈ m.contexts, Move.bodyHasTag (Move.addHiddenMetadata body zid m) ('@' :: t) = true) ∧
    (∀ t ∈ m.people,   Move.bodyHasTag (Move.addHiddenMetadata body zid m) ('%' :: t) = true) :=
  Move.tags_explicit body zid m hz hzw he ho hm hs

/-- every property of the note is written in the moved text (keys are single words, as the lexer guarantees).
Without that guard the statement is false: `Move.Counterexample.props_explicit_false` (a key with a space in it
can be torn apart by the insertion). -/
theorem C10_props_explicit_partial (body zid : Str) (m : Move.Meta) (hz : zid ≠ []) (hzw : Move.NoWs zid)
    (he : Move.ZidEndsWords zid body) (ho : Move.occurs zid body = true)
    (hm : ∀ w ∈ Move.missingWords body m, Move.NoWs w ∧ w ≠ [])
    (hk : ∀ kv ∈ m.props, Move.NoWs kv.1) :
    ∀ kv ∈ m.props, Move.occurs (kv.1 ++ "::".toList) (Move.addHiddenMetadata body zid m) = true := by
  apply Move.props_explicit_partial body zid m hz hzw he ho hm
  intro kv hkv h
  have hnw : Move.NoWs (kv.1 ++ "::".toList) := by
    intro c hc
    rcases List.mem_append.mp hc with hc | hc
    · exact hk kv hkv c hc
    · have : c = ':' := by simpa using hc
      subst this; decide
  have hne : kv.1 ++ "::".toList ≠ [] := by simp
  obtain ⟨w, hw, hpw⟩ := Move.mem_splitWs_of_infix _ hnw hne body ((Move.occurs_iff_infix _ _).mp h)
  exact ⟨w, hw, (Move.occurs_iff_infix _ _).mpr hpw⟩

/-- nothing of the body is lost: every word of the body is still a word of the moved text, and the moved text is
the body with the missing words inserted after the ZID -/
theorem C10_body_words_kept (body zid : Str) (m : Move.Meta) (hz : zid ≠ []) (hzw : Move.NoWs zid)
    (he : Move.ZidEndsWords zid body) :
    (∀ w ∈ Move.splitWs body, w ∈ Move.splitWs (Move.addHiddenMetadata body zid m)) ∧
    (Move.addHiddenMetadata body zid m = body ∨
      Move.addHiddenMetadata body zid m = Rename.replaceAll zid (zid ++ Move.extras body m) body) :=
  ⟨Move.words_kept body zid m hz hzw he, (Move.hidden_only_inserts body zid m).imp id (·.2)⟩

example : Move.movedText 'o' (some "P1".toList) (some 'x') "240101#00 alpha #a".toList "240101#00".toList
    ⟨["p".toList], ["a".toList, "b".toList], [], [], [("k".toList, "v".toList)]⟩ = "x 240101#00 +p #b k::v alpha #a\n".toList := by
  simp only [toList_lit rfl]
  decide +kernel

/-- **Source constants**: the punctuation `_note_body_has_tag` strips from a word is what `Move.stripTagWord` strips -/
theorem C10_source_constants : Gen.tagWordRstrip = ["),.?!;:"] ∧ Gen.tagWordLstrip = ["("] ∧
    Move.stripTagWord "((#tag).,".toList = "#tag".toList := by decide +kernel

/-! Non-vacuity: the repaired corner cases, evaluated by the kernel -/
example : addNote ["# B".toList, [], "- 240102#00 last line of b".toList] ["- 240101#01 moved".toList, []] =
    ["# B".toList, [], "- 240102#00 last line of b".toList, "- 240101#01 moved".toList, []] := by
  simp only [toList_lit rfl]
  decide +kernel
example : addNote ["# C".toList, []] ["- 240101#01 moved".toList, []] = ["# C".toList, [], "- 240101#01 moved".toList, []] := by
  simp only [toList_lit rfl]
  decide +kernel
example : addNote ["# made".toList] ["- 240101#01 moved".toList, []] = ["# made".toList, [], "- 240101#01 moved".toList, []] := by
  simp only [toList_lit rfl]
  decide +kernel
example : deleteNote ["# S".toList, [], "- 240101#00 alpha see 240101#01 too".toList, "- 240101#01 beta".toList, "  * bullet".toList, []]
    "240101#01".toList 2 = some ["# S".toList, [], "- 240101#00 alpha see 240101#01 too".toList, []] := by
  simp only [toList_lit rfl]
  decide +kernel

end ZorgVerif.C10

namespace ZorgVerif.Move
open ZorgVerif

/-! ## The counterexample to `C10_props_explicit_partial` without its condition on the keys

Body `z x::`, ZID `z`, project `p` missing, property key `z x`: the new body is `z +p x::`, in which `z x::` no
longer occurs. -/

/-- decidable form of `ZidEndsWords` -/
def zidEndsWordsB (zid body : Str) : Bool :=
  (List.range (body.length + 1)).all fun i =>
    !zid.isPrefixOf (body.drop i) ||
      ((body.drop (i + zid.length)).isEmpty || isWs ((body.drop (i + zid.length)).headD ' '))

theorem zidEndsWords_of_check (zid body : Str) (h : zidEndsWordsB zid body = true) :
    ZidEndsWords zid body := by
  intro pre post e
  have := List.all_eq_true.mp h pre.length
    (List.mem_range.2 (by rw [e]; simp only [List.length_append]; omega))
  -- at `pre.length` the ZID is a prefix of what is left, and `post` is what follows it
  rw [← List.drop_drop, e, List.append_assoc, List.drop_left, List.drop_left,
    List.isPrefixOf_iff_prefix.mpr (List.prefix_append zid post)] at this
  simpa using this

namespace Counterexample
def body : Str := "z x::".toList
def zid : Str := "z".toList
def m : Meta := { projects := ["p".toList], areas := [], contexts := [], people := [],
                  props := [("z x".toList, "v".toList)] }

/-- all hypotheses of the statement without the condition on the keys hold … -/
def hypothesesHold : Bool :=
  -- zid ≠ [], NoWs zid
  (!zid.isEmpty) && zid.all (fun c => !isWs c) &&
  -- ZidEndsWords: every split body = pre ++ zid ++ post has post = [] or post starting with whitespace
  (List.range (body.length + 1)).all (fun i =>
    !(zid.isPrefixOf (body.drop i)) ||
      (let post := body.drop (i + zid.length); post.isEmpty || isWs (post.headD ' '))) &&
  -- occurs zid body
  occurs zid body &&
  -- every missing word is whitespace-free and non-empty
  (missingWords body m).all (fun w => w.all (fun c => !isWs c) && !w.isEmpty)

/-- … and the conclusion fails for the only property -/
def conclusionHolds : Bool :=
  m.props.all (fun kv => occurs (kv.1 ++ "::".toList) (addHiddenMetadata body zid m))

#eval hypothesesHold                                   -- true
#eval conclusionHolds                                  -- false
#eval String.ofList (addHiddenMetadata body zid m)     -- "z +p x::"
#eval (missingWords body m).map String.ofList          -- ["+p"]

/-- `props_explicit_partial` without its condition on the keys is refuted (kernel-checked `decide`) -/
theorem props_explicit_false :
    ¬ ∀ (body zid : Str) (m : Meta), zid ≠ [] → NoWs zid → ZidEndsWords zid body →
        occurs zid body = true → (∀ w ∈ missingWords body m, NoWs w ∧ w ≠ []) →
        ∀ kv ∈ m.props, occurs (kv.1 ++ "::".toList) (addHiddenMetadata body zid m) = true := by
  intro H
  have h := H body zid m (by decide) (by unfold NoWs; decide)
    (zidEndsWords_of_check _ _ (by decide)) (by decide) (by unfold NoWs; decide)
    ("z x".toList, "v".toList) (by decide)
  revert h
  decide
end Counterexample

end ZorgVerif.Move
