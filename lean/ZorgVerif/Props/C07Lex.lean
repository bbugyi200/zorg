import ZorgVerif.Lemmas.Lexer
import ZorgVerif.Lemmas.ZidAlloc
import ZorgVerif.Lemmas.Date
import ZorgVerif.Gen.FileLexer
import ZorgVerif.Gen.QueryLexer
/-!
# C07 part 2 — every allocated ZID is one `ZID` token of both lexers
The DFAs are *generated* from the ATNs of the lexers that run (`Gen/FileLexer.lean`,
`Gen/QueryLexer.lean`); the set-wise runs below are re-checked by the kernel whenever a lexer or the
exclusion list changes.  No enumeration of ZIDs: `allAccepted` / `noneAccepted` run the automata on
*sets* of characters per position.
-/
namespace ZorgVerif.C07
open ZorgVerif ZorgVerif.Lex ZorgVerif.Zid

def D : List Char := "0123456789".toList

/-- `YYMMDD#XX` / `YYMMDD#XXX` as a product of character sets; `A` = the allocator's alphabet -/
def zidSets (three : Bool) : List (List Char) :=
  [D, D, ['0', '1'], D, ['0', '1', '2', '3'], D, ['#'], A, A] ++ (if three then [A] else [])

def ruleIndex (rules : Rules) (name : String) : Nat := (rules.map (·.1)).idxOf name

/-- the checkable condition: rule `name` accepts the whole product, no earlier rule accepts any of it -/
def singleTokenCheck (rules : Rules) (name : String) (sets : List (List Char)) : Bool :=
  let k := ruleIndex rules name
  match rules[k]? with
  | some r => r.1 == name && allAccepted r.2 sets && (rules.take k).all (fun r' => noneAccepted r'.2 sets)
  | none => false

theorem singleToken_of_check (rules : Rules) (name : String) (sets : List (List Char))
    (h : singleTokenCheck rules name sets = true) (s : Str) (hs : InProduct s sets) (hne : s ≠ []) :
    lex rules s = [⟨name, s⟩] := by
  simp only [singleTokenCheck] at h
  generalize ruleIndex rules name = k at h
  split at h
  · next r hr =>
    simp only [Bool.and_eq_true, beq_iff_eq, List.all_eq_true] at h
    obtain ⟨⟨rfl, hacc⟩, hprev⟩ := h
    obtain ⟨hk, rfl⟩ := List.getElem?_eq_some_iff.mp hr
    have := lex_single (rules.take k) (rules.drop (k + 1)) rules[k] s hne (allAccepted_sound _ sets s hacc hs)
      fun r' hr' => noneAccepted_sound _ sets s (hprev r' hr') hs
    rwa [← List.drop_eq_getElem_cons hk, List.take_append_drop] at this
  · cases h

/-- **Every** string `YYMMDD#XX(X)` over the allocator's alphabet is a single `ZID` token of both
lexers (maximal munch, rule priority included). -/
theorem C07_lexes (three : Bool) (z : Str) (h : InProduct z (zidSets three)) :
    lex Gen.FileLexer.rules z = [⟨"ZID", z⟩] ∧ lex Gen.QueryLexer.rules z = [⟨"ZID", z⟩] := by
  have hne : z ≠ [] := by rintro rfl; cases three <;> exact h
  -- One evaluation for both lengths and both lexers: the kernel remembers what it has reduced, so the alphabet, the
  -- first nine positions and the run of the `ZID` automaton (the same in both lexers) are computed once, where
  -- four evaluations would repeat them.
  have hc : ∀ three, singleTokenCheck Gen.FileLexer.rules "ZID" (zidSets three) = true ∧
      singleTokenCheck Gen.QueryLexer.rules "ZID" (zidSets three) = true := by decide +kernel
  exact ⟨singleToken_of_check _ _ _ (hc three).1 z h hne, singleToken_of_check _ _ _ (hc three).2 z h hne⟩

theorem digitChar_mem (n : Nat) : digitChar n ∈ D := forall_digitChar (P := (· ∈ D)) (by decide +kernel) n

/-- The date part of a ZID (`to_short_date_spec` of a valid date) lies in the product above. -/
theorem C07_datePart (t : Date) (hv : t.valid = true) :
    InProduct (Date.fmtShort t) [D, D, ['0', '1'], D, ['0', '1', '2', '3'], D] := by
  have ⟨_, _, _, hm, _, hd⟩ := (Date.valid_iff t).mp hv
  have := (Date.daysIn_bounds t.y t.m).2
  rw [Date.fmtShort_eq, Date.padNat_two, Date.padNat_two, Date.padNat_two]
  exact ⟨digitChar_mem _, digitChar_mem _, (by decide : ∀ k < 2, digitChar k ∈ ['0', '1']) _ (by omega),
    digitChar_mem _, (by decide : ∀ k < 4, digitChar k ∈ ['0', '1', '2', '3']) _ (by omega), digitChar_mem _, trivial⟩

/-- Combined: date part of a valid date, `#`, a suffix of the allocator's shape ⇒ one `ZID` token. -/
theorem C07_allocated_lexes (t : Date) (hv : t.valid = true) (suffix : Str) (hs : Shape A suffix) :
    lex Gen.FileLexer.rules (zidString (Date.fmtShort t, suffix)) = [⟨"ZID", zidString (Date.fmtShort t, suffix)⟩] ∧
    lex Gen.QueryLexer.rules (zidString (Date.fmtShort t, suffix)) = [⟨"ZID", zidString (Date.fmtShort t, suffix)⟩] := by
  have hd := C07_datePart t hv
  -- while the date part is not a variable, Lean unfolds it whenever it compares two products
  generalize Date.fmtShort t = dp at hd ⊢
  have h : InProduct ('#' :: suffix) (['#'] :: List.replicate suffix.length A) :=
    ⟨List.mem_singleton_self _, inProduct_replicate hs.1⟩
  replace h := hd.append h
  -- `zidSets three` computes to the six sets of the date, `['#']` and two or three times `A`
  rcases hs.2 with hl | hl <;> rw [hl] at h
  · exact C07_lexes false _ h
  · exact C07_lexes true _ h

instance instDecInProduct : (s : Str) → (sets : List (List Char)) → Decidable (InProduct s sets)
  | [], [] => isTrue trivial
  | c :: cs, S :: rest =>
    match (inferInstance : Decidable (c ∈ S)), instDecInProduct cs rest with
    | isTrue h1, isTrue h2 => isTrue ⟨h1, h2⟩
    | isFalse h1, _ => isFalse (fun h => h1 h.1)
    | _, isFalse h2 => isFalse (fun h => h2 h.2)
  | [], _ :: _ => isFalse (fun h => h)
  | _ :: _, [] => isFalse (fun h => h)

/-! Non-vacuity -/
example : InProduct "240510#0K".toList (zidSets false) := by decide +kernel
example : InProduct "991231#zzz".toList (zidSets true) := by decide +kernel

end ZorgVerif.C07
