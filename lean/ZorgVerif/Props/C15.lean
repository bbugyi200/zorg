import ZorgVerif.Lemmas.Basic
import ZorgVerif.Model.Saved
import ZorgVerif.Model.Filter
import ZorgVerif.Gen.QueryLexer
/-!
# C15 — A saved-query reference filters like the saved query's WHERE clause
Model: `Model/Saved.lean` (textual expansion as the code does it, fuel = recursion depth).
-/
namespace ZorgVerif.C15
open ZorgVerif ZorgVerif.Saved ZorgVerif.Query ZorgVerif.Filter

theorem collect_none_of_mem (f : Str → Option Str) (ns : List Str) (n : Str) (hn : n ∈ ns) (hf : f n = none) :
    collect f ns = none := by
  induction ns with
  | nil => cases hn
  | cons m ms ih =>
    rw [collect]
    rcases List.mem_cons.1 hn with rfl | h
    · rw [hf]
    · rw [ih h]; cases f m <;> rfl

theorem collect_congr (f g : Str → Option Str) (ns : List Str) (h : ∀ n ∈ ns, f n = g n) : collect f ns = collect g ns := by
  induction ns with
  | nil => rfl
  | cons m ms ih =>
    simp only [collect, h m (by simp), ih (fun n hn => h n (by simp [hn]))]

theorem savedWhere_missing (σ : Str → Option Str) (fuel : Nat) (name : Str) (hmiss : σ name = none) :
    savedWhere σ fuel name = none := by
  cases fuel with
  | zero => rfl
  | succ f => simp [savedWhere, hmiss]

/-- A reference to a saved query that does not exist is reported (expansion yields `None`, and
`execute_with_session` raises), never ignored. -/
theorem C15_missing (σ : Str → Option Str) (fuel : Nat) (q name : Str)
    (href : name ∈ names q) (hmiss : σ name = none) : expand σ fuel q = none := by
  simp [expand, collect_none_of_mem _ _ name href (savedWhere_missing σ fuel name hmiss)]

/-- …also when the missing reference is nested inside a saved query. -/
theorem C15_missing_nested (σ : Str → Option Str) (fuel : Nat) (outer inner content : Str)
    (hc : σ outer = some content) (href : inner ∈ names (whereText content)) (hmiss : σ inner = none) :
    savedWhere σ (fuel + 1) outer = none := by
  simp [savedWhere, hc, collect_none_of_mem _ _ inner href (savedWhere_missing σ fuel inner hmiss)]

/-- A query without references is left as it is. -/
theorem C15_no_refs (σ : Str → Option Str) (fuel : Nat) (q : Str) (h : names q = []) : expand σ fuel q = some q := by
  simp [expand, h, collect, substAll]

/-- acyclicity witnessed by a depth function on names -/
def Acyclic (σ : Str → Option Str) (dep : Str → Nat) : Prop :=
  ∀ name content, σ name = some content → ∀ nm ∈ names (whereText content), dep nm < dep name

/-- **Termination**: for an acyclic set of saved queries the recursion depth `dep name + 1` suffices —
more fuel never changes the result (Python: no RecursionError, the expansion returns). -/
theorem C15_terminates (σ : Str → Option Str) (dep : Str → Nat) (hac : Acyclic σ dep) :
    ∀ (fuel : Nat) (name : Str), dep name < fuel → ∀ k, savedWhere σ (fuel + k) name = savedWhere σ fuel name := by
  intro fuel
  induction fuel with
  | zero => intro name h; omega
  | succ f ih =>
    intro name hname k
    rw [Nat.add_right_comm, savedWhere, savedWhere]
    cases hs : σ name with
    | none => rfl
    | some content =>
      -- the names in the saved text are shallower, so their look-ups agree by induction
      have hc := collect_congr (savedWhere σ (f + k)) (savedWhere σ f) (names (whereText content))
        fun nm hnm => ih nm (by have := hac name content hs nm hnm; omega) k
      simp only [hc]

/-- A substituted saved filter that contains alternatives is grouped by parentheses. -/
theorem C15_grouped (σ : Str → Option Str) (fuel : Nat) (name w : Str)
    (h : savedWhere σ fuel name = some w) (halt : hasInfix " | ".toList w = true) :
    ∃ body, w = '(' :: body ++ [')'] := by
  cases fuel with
  | zero => cases h
  | succ f =>
    -- a result is the `if … then '(' :: w' ++ [')'] else w'` at the end of `savedWhere`
    simp only [savedWhere] at h
    split at h
    · cases h
    · split at h
      · cases h
      · cases h
        split
        · exact ⟨_, rfl⟩
        · next hno => rw [if_neg hno] at halt; exact absurd halt hno

theorem optAll_insert (xs ys : List (Option Bool)) (y : Option Bool) :
    optAll (xs ++ y :: ys) = optAll [optAll (xs ++ ys), y] := by
  induction xs with
  | nil =>
    simp only [List.nil_append, optAll, List.foldr_cons, List.foldr_nil]
    cases y <;> cases (List.foldr _ (some true) ys) <;> simp [Bool.and_comm]
  | cons x xs ih =>
    simp only [List.cons_append, optAll, List.foldr_cons, List.foldr_nil] at ih ⊢
    rw [ih]
    cases x <;> cases y <;> cases (List.foldr _ (some true) (xs ++ ys)) <;> simp [Bool.and_assoc]

/-- the referenced filter `o`, substituted as `( o )`, is conjoined with the surrounding filter -/
theorem C15_meaning_sub (idx : Index) (today : Date) (n : NoteRow) (atoms : List Atom) (o : List AndF) (subs : List (List AndF)) :
    satAnd idx today n (.mk atoms (o :: subs)) =
      optAll [satAnd idx today n (.mk atoms subs), satOr idx today n o] := by
  simp only [satAnd, satSubs]
  exact optAll_insert (_ :: _ :: (atoms.map (satAtom idx today n))) (satSubs idx today n subs) (satOr idx today n o)

/-! ## Negative result (`C15_meaning` as stated is false for un-parenthesised splices): kinds written
in the surrounding filter and in the saved filter pool into one set.  `W o {q}` with `q: W x` expands to
`W o x`, which a done todo satisfies although it does not satisfy the surrounding filter `o`. -/
def rowX : NoteRow :=
  ⟨"240101#00".toList, "a.zo".toList, .closedTodo, some 2, "240101#00 t".toList, ⟨2024, 1, 1⟩, ⟨2024, 1, 1⟩, [], [], [], [], [], []⟩
def sigmaX : Str → Option Str := fun nm => if nm = "q".toList then some "# W x G none".toList else none
def evalText (s : Str) : Option Bool :=
  match parseToks ⟨.field .note, [], []⟩ ⟨2024, 1, 1⟩ (Lex.lex Gen.QueryLexer.rules s) with
  | .ok ⟨_, some o, _, _⟩ => satOr [rowX] ⟨2024, 1, 1⟩ rowX o
  | _ => none

theorem C15_pooling_counterexample :
    expand sigmaX 5 "W o {q}".toList = some "W o x".toList ∧
    evalText "W o x".toList = some true ∧            -- the expanded query returns the done todo
    evalText "W o".toList = some false ∧             -- …which does not satisfy the surrounding filter
    evalText "W o (x)".toList = some false := by     -- (a grouped substitution would have been right)
  -- one evaluation for the four facts: the kernel then normalises the lexer's tables once
  simp only [toList_lit rfl]
  decide +kernel

/-! Non-vacuity -/
def sigma1 : Str → Option Str := fun nm =>
  if nm = "foo".toList then some "# W o {bar} %bob {baz} G file".toList
  else if nm = "bar".toList then some "# W #foo +bar O priority G file".toList
  else if nm = "baz".toList then some "# W @BAZ | buz:* G priority file".toList
  else none
example : expand sigma1 5 "W #fat {foo} O create G none".toList =
    some "W #fat (o #foo +bar %bob (@BAZ | buz:*)) O create G none".toList := by
  unfold sigma1  -- so that `toList_lit` reaches the saved texts
  simp only [toList_lit rfl]
  decide +kernel
example : expand sigma1 5 "S count(+) W @CALL {does_not_exist}".toList = none := by
  simp only [toList_lit rfl]
  decide +kernel

end ZorgVerif.C15
