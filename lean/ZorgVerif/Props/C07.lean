import ZorgVerif.Lemmas.ZidAlloc
/-!
# C07 — ZIDs are unique, well-formed and recognised by every component

Part 1 (this file): the allocator `_zid_manager.py`.  `E` is the *generated* exclusion list
(`Gen.unsupportedZidChars`), `A` the alphabet derived from it; `A_table`, on which `odometerE` rests, is
re-checked by `decide +kernel` whenever the list changes.
Part 2 (`C07Lex.lean`): every allocated ZID is a single `ZID` token of both generated lexers.
-/
namespace ZorgVerif.C07
open ZorgVerif ZorgVerif.Zid

/-- the number of suffixes of one date: 51² + 51³ -/
theorem C07_space : A.length ^ 2 + A.length ^ 3 = 135252 := by rw [A_length]

/-- The successor function walks the chain `00 … zz 000 … zzz` one step at a time and fails only at
its end. -/
theorem C07_succ_rank (s : List Char) (h : Shape A s) :
    (∀ s', nextId E s = .ok s' → Shape A s' ∧ rank A s' = rank A s + 1) ∧
    (nextId E s = .error .outOfIds ↔ rank A s + 1 = 135252) := by
  have := nextId_spec odometerE s h
  rw [C07_space] at this; exact this

/-- No two allocations return the same ZID — any sequence of dates, any interleaving; a restart is
the identity on the persisted map (`ZIDManager` re-reads `next_ids.json` on every call), so restarts
between any two allocations are covered. -/
theorem C07_unique (ds : List (List Char)) : (allocs E [] ds).Nodup :=
  (allocs_fresh odometerE ds [] [] (Inv.nil A)).1

/-- … also as strings `YYMMDD#XX`, given that date parts contain no `#`. -/
theorem C07_unique_strings (ds : List (List Char)) (h : ∀ d ∈ ds, '#' ∉ d) :
    ((allocs E [] ds).map zidString).Nodup := by
  obtain ⟨hn, hp⟩ := allocs_fresh odometerE ds [] [] (Inv.nil A)
  unfold List.Nodup
  rw [List.pairwise_map]
  exact List.Pairwise.imp_of_mem
    (fun {z w} hz hw hne he => hne (zidString_inj (h _ (hp z hz).2.1) (h _ (hp w hw).2.1) he)) hn

/-- Every allocated ZID is `date # s` with `|s| ∈ {2,3}`, `s` alphanumeric and free of the excluded
look-alike characters. -/
theorem C07_shape (ds : List (List Char)) :
    ∀ z ∈ allocs E [] ds, z.1 ∈ ds ∧ (z.2.length = 2 ∨ z.2.length = 3) ∧
      ∀ c ∈ z.2, c.isAlphanum = true ∧ c ∉ E := by
  intro z hz
  obtain ⟨_, hd, ⟨hv, hl⟩, _⟩ := (allocs_fresh odometerE ds [] [] (Inv.nil A)).2 z hz
  refine ⟨hd, hl, ?_⟩
  intro c hc
  simpa using (List.mem_filter.mp (hv c hc)).2

/-! ## Exhaustion.  The statement says "fails only after all 135 252 suffixes were handed out".
The code computes the successor *before* handing out the current suffix, so the last suffix `zzz`
can never be returned: allocation fails after 135 251 suffixes.  Proved below both ways. -/

theorem shape_zzz : Shape A ['z', 'z', 'z'] := by
  have : 'z' ∈ A := List.mem_of_getLast? A_table.2.2.1
  exact ⟨by intro c hc; simp at hc; rwa [hc], Or.inr rfl⟩

theorem rank_zzz : rank A ['z', 'z', 'z'] = 135251 := by
  have := (C07_succ_rank _ shape_zzz).2.1 rfl
  omega

/-- `alloc` fails iff the stored suffix for that date is the last one of the chain. -/
theorem C07_alloc_fails_iff (m : Ids) (k : List Char) (h : Shape A ((lookup m k).getD ['0', '0'])) :
    (∃ e, alloc E m k = .error e) ↔ rank A ((lookup m k).getD ['0', '0']) = 135251 := by
  refine Iff.trans ?_ ((C07_succ_rank _ h).2.trans (by omega))
  rw [alloc]
  cases nextId E _ with
  | ok v => simp
  | error e => cases e; exact ⟨fun _ => rfl, fun _ => ⟨_, rfl⟩⟩

/-- **Negative result** (defect C07-b of DESIGN.md): the last suffix is never handed out. -/
theorem C07_last_suffix_never_returned (ds : List (List Char)) :
    ∀ z ∈ allocs E [] ds, z.2 ≠ ['z', 'z', 'z'] := by
  intro z hz he
  have := ((allocs_fresh odometerE ds [] [] (Inv.nil A)).2 z hz).2.2.2
  rw [he, rank_zzz, C07_space] at this
  omega

/-- What does hold (`…_partial`): allocation for a date fails only when the stored suffix is `zzz`,
i.e. only after every suffix *below* `zzz` was handed out for that date. -/
theorem C07_exhaustion_partial (ds : List (List Char)) (m : Ids) (H) (hi : Inv A m H) (k : List Char)
    (hf : ∃ e, alloc E m k = .error e) : lookup m k = some ['z', 'z', 'z'] := by
  have hshape := (hi.getD odometerE k).1
  have hr := (C07_alloc_fails_iff m k hshape).1 hf
  cases hl : lookup m k with
  | none => rw [hl] at hr; simp [rank_00 odometerE] at hr
  | some v =>
    rw [hl] at hr hshape; simp only [Option.getD_some] at hr hshape
    rw [rank_inj hshape shape_zzz (by rw [hr, rank_zzz])]

/-! ## Non-vacuity -/
example : allocs E [] ["240510".toList, "240510".toList, "240511".toList] =
    [("240510".toList, "00".toList), ("240510".toList, "01".toList), ("240511".toList, "00".toList)] := by
  decide +kernel
example : Shape A "0H".toList ∧ nextId E "0H".toList = .ok "0J".toList := by
  refine ⟨⟨by decide +kernel, Or.inl rfl⟩, by rfl⟩
example : nextId E "zz".toList = .ok "000".toList ∧ nextId E "zzz".toList = .error .outOfIds := by
  constructor <;> rfl

end ZorgVerif.C07
