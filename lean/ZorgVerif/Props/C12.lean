import ZorgVerif.Lemmas.Zo
import ZorgVerif.Model.NoteText
import ZorgVerif.Gen.FileLexer
/-!
# C12 — A note's text form compiles back to the same note
`Note.to_string()` writes `kind-char [" " priority] " " body.strip() "\n"` (priority only for todos that are
not done / cancelled).  At token level the first line of that text is `prefix SPACE [PRIORITY SPACE] atoms`;
the theorems say how the compiler model classifies such a line, i.e. that kind, priority and the body
atoms (hence every event: identity words, tags, links, properties) are read back unchanged.
-/
namespace ZorgVerif.C12
open ZorgVerif ZorgVerif.Lex ZorgVerif.Zo
open ZorgVerif.Query (NoteKind)

def sp : Tok := ⟨"SPACE", [' ']⟩

/-- a plain note line reads back as a plain note with the same body atoms -/
theorem C12_note_line (ts : List Tok) :
    classify (⟨"DASH", ['-']⟩ :: sp :: ts) = .item .basic none (sp :: ts) := by
  simp [classify, sp, headerLevel]

/-- a todo line written with its priority reads back with that kind, that priority and the same atoms -/
theorem C12_todo_line (t : Tok) (k : NoteKind) (hk : todoKind t = some k) (p : Tok) (hp : p.name = "PRIORITY") (ts : List Tok) :
    classify (t :: sp :: p :: sp :: ts) = .item k (some p.text) (sp :: ts) := by
  obtain ⟨h1, h2, h3⟩ := not_comment_header_dash hk
  simp [classify, h1, h2, h3, hk, sp, hp]

/-- a done / cancelled todo is written without priority: it reads back with the default priority and the
same atoms **provided its body does not itself start with a `Pn` word** -/
theorem C12_done_line (t : Tok) (k : NoteKind) (hk : todoKind t = some k) (a : Tok) (ha : a.name ≠ "PRIORITY") (ts : List Tok) :
    classify (t :: sp :: a :: ts) = .item k none (sp :: a :: ts) := by
  obtain ⟨h1, h2, h3⟩ := not_comment_header_dash hk
  cases ts with
  | nil => simp [classify, h1, h2, h3, hk, sp]
  | cons b rest => simp [classify, h1, h2, h3, hk, sp, ha]

/-- **Negative result** (known finding C12.done_todo_body_starts_with_priority): a done todo whose body
starts with a `Pn` word reads back with that word as its priority and a shorter body. -/
theorem C12_done_priority_counterexample :
    classify [⟨"LOWER_X", ['x']⟩, sp, ⟨"PRIORITY", "P1".toList⟩, sp, ⟨"ID", "foo".toList⟩] =
      .item .closedTodo (some "P1".toList) [sp, ⟨"ID", "foo".toList⟩] :=
  C12_todo_line _ .closedTodo rfl _ rfl _

/-- the body is compared up to outer whitespace: the single space `to_string` writes in front of the
stripped body disappears again, and stripping is idempotent -/
theorem C12_body_round_trip (b : Str) : strip (' ' :: strip b) = strip b ∧ strip (strip b) = strip b :=
  ⟨by rw [strip_cons_ws ' ' _ (by decide), strip_strip], strip_strip b⟩

/-! Non-vacuity: a rendered note through the generated lexer and the compiler model (kernel-evaluated): a blocked todo keeps
kind, priority and body; a done one drops the priority word and reads back with the default -/
private def roundTrip (kindChar : Char) (prio : Option String) (done : Bool) (body : String) : List (NoteKind × Option String × String) :=
  let text := "# T\n\n".toList ++ NoteText.noteToString kindChar (prio.map String.toList) done body.toList
  match compileToks ⟨2024, 6, 15⟩ "P3".toList ((lex Gen.FileLexer.rules text).filter (·.name != "<err>")) with
  | .ok r => r.notes.map (fun (n : Note) => (n.kind, n.priority.map Str.toStr, Str.toStr n.body))
  | .error _ => []

example : roundTrip '<' (some "P1") false "240101#00 blocked #tag body" = [(.blockedTodo, some "P1", "240101#00 blocked #tag body")] := by
  decide +kernel
example : roundTrip 'x' (some "P1") true "  240101#00 done body \n" = [(.closedTodo, some "P3", "240101#00 done body")] := by
  decide +kernel

end ZorgVerif.C12

#print axioms ZorgVerif.C12.C12_body_round_trip
