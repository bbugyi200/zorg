import ZorgVerif.Lemmas.Crash
import ZorgVerif.Lemmas.ZidAlloc
/-!
# C13 — Re-running an interrupted index operation converges   (partial: see "What the model cannot exhibit")

Model: `Model/Crash.lean` — `db reindex` / `db create` as the list of their external effects (database commits,
hash-map replacements, page replacements) in the order of `service/handlers.py` + `service/messagebus.py`;
a kill between two effects leaves the store after a prefix of that list (`crashReindex s k`, `crashCreate s k`);
the rerun is the big-step `reindexPlain` / `create` of `Model/Index.lean` (C06's model), tied to the effect list
by `C13_effects_are_the_run`.  The page compiler + write-back is the parameter `sem.process`, assumed `Stable`
(what is indexed depends only on the text that ends up in the file) and user-text preserving (`hut`).

What the model cannot exhibit (checked only by the fault-injection harness, hence *partial*): fsync ordering and
power loss below the level of atomic renames and SQLite commits; the damaged page versions left by the commits
inside `remove_file_by_name` are arbitrary (`Env.junk`), which over-approximates the code.
-/
namespace ZorgVerif.C13
open ZorgVerif ZorgVerif.Index ZorgVerif.Crash

variable {Page : Type}

/-- **Reindex**: kill `db reindex` before any of its effects (k = 0 … number of effects; a larger k is the
complete run), run it again: index, hash map and files agree, every file keeps its user text, no file appears or
disappears — from every store that satisfies C06's invariant (every reachable store, `C06_invariant`).  `hmid`: the text a twice-rewritten
page has in between (`Env.mid`) keeps the user text as well. -/
theorem C13_reindex {α : Type} (sem : Sem Page) (hs : Stable sem) (ut : Text → α)
    (hut : ∀ old t, ut (sem.process old t).1 = ut t) (env : Env Page)
    (hmid : ∀ p t m, env.mid p t = some m → ut m = ut t)
    (s : Store Page) (h : Inv sem s) (hu : Uniq s.files) (k : Nat) :
    let r := reindexPlain sem (crashReindex sem env s k)
    Agree sem r ∧ (∀ p, (get r.files p).map ut = (get s.files p).map ut) ∧
      (∀ p, (get r.files p).isSome = (get s.files p).isSome) := by
  intro r
  obtain ⟨hI, hU⟩ := crashReindex_InvM hs env h hu k
  obtain ⟨h1, h2, h3, _⟩ := reindexPlain_spec hs hI hU
  have ht := fun p => (recover_userText ut hut _ hU p).trans (crashReindex_userText ut hut env hmid s hu k p)
  exact ⟨⟨h1, h3, h2⟩, ht, fun p => isSome_of_map (ht p)⟩

/-- **Create**: the same for `db create` (whose rerun starts from the files alone) -/
theorem C13_create {α : Type} (sem : Sem Page) (hs : Stable sem) (ut : Text → α)
    (hut : ∀ old t, ut (sem.process old t).1 = ut t) (s : Store Page) (hu : Uniq s.files) (k : Nat) :
    let r := create sem (crashCreate sem s k)
    Agree sem r ∧ (∀ p, (get r.files p).map ut = (get s.files p).map ut) ∧
      (∀ p, (get r.files p).isSome = (get s.files p).isSome) := by
  intro r
  have hU : Uniq (crashCreate sem s k).files := uniq_applyAll_files _ hu
  obtain ⟨h1, h2, h3, _⟩ := create_spec hs (crashCreate sem s k) hU
  have ht := fun p => (recover_userText ut hut (blank _) hU p).trans (crashCreate_userText ut hut s hu k p)
  exact ⟨⟨h1, h3, h2⟩, ht, fun p => isSome_of_map (ht p)⟩

/-- the invariant behind it: at every crash point a page whose recorded hash matches its file is settled and
correctly indexed (so skipping it in the rerun is right) -/
theorem C13_crash_invariant (sem : Sem Page) (hs : Stable sem) (env : Env Page) (s : Store Page) (h : Inv sem s)
    (hu : Uniq s.files) (k : Nat) : InvM sem (crashReindex sem env s k) :=
  (crashReindex_InvM hs env h hu k).1

/-- "exactly as after an uninterrupted run": the complete effect list *is* the big-step run (as maps), which
satisfies the same agreement (`C06_plain_reindex`).  Distinct file names suffice (`reindexEffs_agreeAt`): `hs` and
`h` are not used. -/
theorem C13_effects_are_the_run (sem : Sem Page) (hs : Stable sem) (env : Env Page) (s : Store Page) (h : Inv sem s)
    (hu : Uniq s.files) :
    let a := applyAll s (reindexEffs sem env s); let b := reindexPlain sem s
    (∀ p, get a.files p = get b.files p) ∧ (∀ p, get a.db p = get b.db p) ∧ (∀ p, get a.hashes p = get b.hashes p) :=
  Store.maps_eq (reindexEffs_agreeAt sem env hu)

/-- the same for `db create`; distinct file names suffice -/
theorem C13_create_effects_are_the_run (sem : Sem Page) (s : Store Page) (hu : Uniq s.files) :
    let a := applyAll s (createEffs sem s); let b := create sem s
    (∀ p, get a.files p = get b.files p) ∧ (∀ p, get a.db p = get b.db p) ∧ (∀ p, get a.hashes p = get b.hashes p) :=
  Store.maps_eq (createEffs_agreeAt sem hu)

/-- **No ZID is assigned twice across a kill**: `get_next` replaces next_ids.json (atomically) *before* it returns
the ZID, so the allocations of the interrupted run `ds` and those of the rerun `ds'` form one allocation sequence
over the persisted map — C07's theorem for every sequence. -/
theorem C13_zids_unique (ds ds' : List (List Char)) : (Zid.allocs Zid.E [] (ds ++ ds')).Nodup :=
  (Zid.allocs_fresh Zid.odometerE (ds ++ ds') [] [] (Zid.Inv.nil _)).1

/-! ## Why the order of effects matters: the order before the repair does not converge

`reindexEffsOld` is the effect list of the code before the "fix:" commit recorded in known_findings.json: the
saved hash map describes *every* file as it was before write-back.  Kernel-checked counterexample: one page
with a new note, killed right after the hash map was saved — the rerun finds nothing to do and the index keeps
a page (with ZIDs) that the file does not show. -/
def reindexEffsOld (sem : Sem Page) (env : Env Page) (s : Store Page) : List (Eff Page) :=
  (stale s).flatMap (fun p => removal env p ++ [Eff.dbDrop p]) ++
  (work sem s).flatMap (fun w => removal env w.1 ++ [Eff.dbPut w.1 w.2.2.2]) ++
  [Eff.hashAll s.files] ++
  (pending sem s).flatMap (fun w =>
    ((env.mid w.1 w.2.1).toList.map (Eff.file w.1)) ++ [Eff.file w.1 w.2.2.1, Eff.hashPut w.1 w.2.2.1])

/-- pages = texts; write-back appends `!` once (the ZID) -/
def exSem : Sem Str := ⟨fun _ t => if t.getLast? == some '!' then (t, t) else (t ++ ['!'], t ++ ['!'])⟩
theorem exSem_stable : Stable exSem := by
  intro old t
  unfold exSem
  by_cases h : (t.getLast? == some '!') = true
  · simp only [if_pos h]
  · simp only [if_neg h, List.getLast?_concat, beq_self_eq_true, if_true]
def exEnv : Env Str := ⟨fun _ => [], fun _ _ => none⟩
def exStore : Store Str := ⟨[("a".toList, "x".toList)], [], []⟩

theorem C13_old_order_does_not_converge :
    let c := applyAll exStore ((reindexEffsOld exSem exEnv exStore).take 2)
    let r := reindexPlain exSem c
    get r.files "a".toList = some "x".toList ∧ get r.db "a".toList = some "x!".toList := by decide +kernel

/-- the same crash point with the repaired order converges (instance of `C13_reindex`, evaluated) -/
example :
    let r := reindexPlain exSem (crashReindex exSem exEnv exStore 2)
    get r.files "a".toList = some "x!".toList ∧ get r.db "a".toList = some "x!".toList ∧ get r.hashes "a".toList = some "x!".toList := by
  decide +kernel

/-! Non-vacuity of the hypotheses: `exSem` is Stable, the empty-index store satisfies `Inv`, user text = the text
without the marker. -/
example : Inv exSem exStore := Inv.empty exSem _
example : Uniq exStore.files := by simp [Uniq, exStore]
example : ∀ old t, (fun (t : Str) => t.filter (· != '!')) ((exSem.process old t).1) = (fun (t : Str) => t.filter (· != '!')) t := by
  intro old t; simp only [exSem]; split <;> simp [List.filter_append]

end ZorgVerif.C13
