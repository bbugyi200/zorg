import ZorgVerif.Lemmas.Identity
import ZorgVerif.Lemmas.NoteText
/-!
# C05 — After `db create` index and files agree; files change only to gain ZIDs
Model: `Model/NoteText.lean` (`_add_zid_to_line`, `_pop_line_before_zid`, `_update_zo_file`, `_add_zids`,
transcribed on characters with Python's `split(" ")` / `" ".join`).  The store-level statements
(agreement of index and files, idempotence) are proved in `Props/C06.lean` for the abstract index model
under the law that the write-back text recompiles to the indexed page; that law is what this check's
correspondence run establishes on real directories (index rows vs recompiled files).
-/
namespace ZorgVerif.C05
open ZorgVerif ZorgVerif.NoteText

/-- **The ZID is inserted right after the kind / priority prefix** — for every first line of the shape
`indent kind [Pn] extra-spaces body…`: indentation and prefix are kept, a leading `YYYY-MM-DD` creation
date is replaced, every later word is kept verbatim (extra spaces after the prefix are dropped). -/
theorem C05_zid_after_prefix (zid : Str) (k j : Nat) (sym : Str) (prio body : List Str) (h : Shape sym prio j body)
    (hsp : ∀ w ∈ shapeWords k sym prio j body, ' ' ∉ w) :
    addZidToLine zid (joinSp (shapeWords k sym prio j body)) =
      .ok (shapePre k sym prio ++ zid ++ [' '] ++ joinSp (dropLeading isLongDate body)) := by
  unfold addZidToLine
  rw [splitOn_joinSp _ (by simp [shapeWords]) hsp, shapeWords, popLineBeforeZid_shape' k j sym prio body h]
  rfl

/-- **Minimal diff**: rewriting touches only the first lines of the listed notes; the number of lines and
every other line are unchanged. -/
theorem C05_minimal_diff (f : Str → Str → Except Err Str) (us : List Upd) (ls ls' : List Str)
    (h : updateLines f us ls = .ok ls') :
    ls'.length = ls.length ∧ ∀ i, (∀ u ∈ us, u.lineNo - 1 ≠ i) → ls'[i]? = ls[i]? :=
  updateLines_spec f us ls ls' h

/-- **File and index agree on the rewritten first line**: the body `_add_zids` stores in the index
(`addZidToBody`, computed from the compiled body) is exactly what follows the prefix in the line that
`_add_zid_to_line` writes (`C05_zid_after_prefix`) — for every body whose first word is not blank. -/
theorem C05_index_body_agrees (zid : Str) (body : List Str) (hb : body ≠ [])
    (hh : ∀ w, body.head? = some w → w ≠ [] ∧ ∀ c ∈ w,
      (c == ' ' || c == '\t' || c == '\n' || c == '\r' || c == '\x0b' || c == '\x0c') = false) :
    addZidToBody zid (joinSp body) = zid ++ [' '] ++ joinSp (dropLeading isLongDate body) := by
  cases body with
  | nil => exact absurd rfl hb
  | cons w r =>
    obtain ⟨hne, hw⟩ := hh w rfl
    -- the joined text is the first word followed by nothing, or by a space and the other words
    cases r with
    | nil =>
      have := addZidToBody_word zid w [] hne hw (fun c h => by simp at h)
      rw [List.append_nil] at this
      rw [show joinSp [w] = w from rfl, this, dropLeading]
      split <;> rfl
    | cons y ys =>
      have := addZidToBody_word zid w ([' '] ++ joinSp (y :: ys)) hne hw
        (fun c h => by rw [← Option.some.inj h]; rfl)
      rw [joinSp_cons_cons, List.append_assoc, this, dropLeading]
      split
      · rfl
      · simp [joinSp_cons_cons]

/-- **The written ZID is read back**: a line whose first word after the prefix is a ZID (what `C05_zid_after_prefix` writes,
one `ZID` token by `C07_allocated_lexes`) compiles to a note with that ZID and the ZID's date, whatever the rest of the line is —
so the second compile allocates nothing and file and index keep agreeing on identity. -/
theorem C05_written_zid_is_read (z : Str) (dt : Date) (hz : Zo.isZid z = true) (hd : Date.parseShort (z.take 6) = some dt)
    (rest : List Zo.Ev) : Zo.identity (.word :: .id z :: rest) = .ok (none, some z, some dt) := by
  simp only [Zo.identity, Zo.identity.go]
  simp [Zo.isShortDate_of_isZid hz, hz, hd,
    Zo.identity_go_settled rest 1 1 none (some z) (some dt) (.inr (.inr ⟨Nat.le_refl 1, rfl, rfl⟩))]

/-- splitting a line at spaces and joining it again is the identity (the rewriting loses no character) -/
theorem C05_split_join (s : Str) : joinSp (splitOn ' ' s) = s := joinSp_splitOn s

/-! Non-vacuity and the repaired corner cases, evaluated by the kernel -/
example : (addZidToLine "240615#00".toList "  o P1   2024-01-02 spaced  todo".toList).toOption = some ("  o P1 240615#00 spaced  todo".toList) := by
  simp only [toList_lit rfl]
  decide +kernel
example : (addZidToLine "240615#00".toList "- P5 is a word".toList).toOption = some ("- 240615#00 P5 is a word".toList) := by
  simp only [toList_lit rfl]
  decide +kernel
example : (addZidToLine "240615#00".toList "- 1234567890 is my phone".toList).toOption = some ("- 240615#00 1234567890 is my phone".toList) := by
  simp only [toList_lit rfl]
  decide +kernel
example : addZidToBody "240615#00".toList "2024-01-02 spaced  todo".toList = "240615#00 spaced  todo".toList := by
  simp only [toList_lit rfl]
  decide +kernel
-- the create date as the only word of the first line (repaired, see known_findings.json): the continuation lines are kept
example : addZidToBody "240102#00".toList "2024-01-02\n  continuation text".toList = "240102#00 \n  continuation text".toList := by
  simp only [toList_lit rfl]
  decide +kernel
-- `C05_index_body_agrees` on a concrete body: what the index stores is what the file line shows after the prefix
example : addZidToBody "240615#00".toList (joinSp ["2024-01-02".toList, "buy".toList, "milk".toList]) =
    "240615#00".toList ++ [' '] ++ joinSp (dropLeading isLongDate ["2024-01-02".toList, "buy".toList, "milk".toList]) := by
  simp only [toList_lit rfl]
  decide +kernel

end ZorgVerif.C05
