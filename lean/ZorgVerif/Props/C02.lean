import ZorgVerif.Lemmas.Zo
import ZorgVerif.Gen.FileLexer
/-!
# C02 — Notes inherit metadata from the page title and enclosing sections only
Model: `Model/Zo.lean`.  A note is built by `finishItem` from the file scope, the stack of open section
scopes and its own events; these theorems pin down what that stack can contain.
-/
namespace ZorgVerif.C02
open ZorgVerif ZorgVerif.Lex ZorgVerif.Zo

/-- opening a level-k header removes every scope of level ≥ k (sibling, earlier and deeper sections) and
keeps exactly the enclosing ones -/
theorem C02_header_resets (k : Nat) (s : List (Nat × Str × Scope)) (x : Nat × Str × Scope) :
    x ∈ closeTo k s ↔ x ∈ s ∧ x.1 < k := mem_closeTo k s x

/-- the stack of open sections is strictly increasing in level at all times, so it holds at most one
section per level — the enclosing ones, innermost last -/
theorem C02_stack_sorted (today : Date) (dp : Str) (fuel f : Nat) (st st' : St) (cur : Option Item) (lines : List Line)
    (h : bodyLines today dp fuel f st cur lines = .ok st') (hs : Sorted st.scopes) :
    Sorted st'.scopes ∧ st'.file = st.file := by
  obtain ⟨a, b, _⟩ := bodyLines_sorted h hs
  exact ⟨a, b⟩

/-- every note of a compiled page was built from the page's file scope and a sorted stack of enclosing
sections (nothing else is in reach of `finishItem`) -/
theorem C02_built_from_enclosing (today : Date) (dp : Str) (toks : List Tok) (res : PageResult)
    (h : compileToks today dp toks = .ok res) :
    ∀ note ∈ res.notes, ∃ file, BuiltSorted today dp (toks.length + 2) file note :=
  (compileToks_notes h).2

/-- in-block comments are inert: a comment line changes nothing but the block bookkeeping -/
theorem C02_comment_inert (today : Date) (dp : Str) (fuel f : Nat) (st : St) (no : Nat) (ts : List Tok) (nl : Str)
    (rest : List Line) (atoms : List Tok) (hc : classify ts = .comment atoms) :
    bodyLines today dp fuel (f + 1) st none ((no, ts, nl) :: rest) =
      if nl.isEmpty then .error (.syntax "missing newline at end of file")
      else (spaceAtoms fuel atoms).bind fun _ => bodyLines today dp fuel f (openBlock st) none rest :=
  bodyLines_cons_eq hc nofun

/-- tag names made only of digits never enter a scope -/
theorem C02_digit_tags_dropped (q : Bool) (sc sc' : Scope) (tt tp td : Bool) (ev : Ev)
    (h : addEv q sc tt tp td ev = .ok sc') :
    (∀ p ∈ sc'.tags, p ∈ sc.tags ∨ p.2.all isDigit = false) ∧ (∀ l ∈ sc'.links, l ∈ sc.links ∨ l.all isDigit = false) :=
  ⟨addEv_tags h, addEv_links h⟩

/-- tags / links are taken only where the scope flag allows (first header line, section headers, notes);
properties only in the header block, section headers and notes; dates likewise -/
theorem C02_flags (q : Bool) (sc sc' : Scope) (tt tp td : Bool) (ev : Ev) :
    (addEv q sc false tp td ev = .ok sc' → sc'.tags = sc.tags ∧ sc'.links = sc.links) ∧
    (addEv q sc tt false td ev = .ok sc' → sc'.props = sc.props) ∧
    (addEv q sc tt tp false ev = .ok sc' → sc'.date = sc.date) :=
  -- the case of `addEv_cases` that changes a field comes with the field's flag, here `false = true`; the others keep it
  ⟨fun h => by
      rcases addEv_cases h with rfl | ⟨_, _, ⟨⟩, _⟩ | ⟨_, ⟨⟩, _⟩ | ⟨_, -, rfl⟩ | ⟨_, -, rfl⟩ <;> exact ⟨rfl, rfl⟩,
    fun h => by rcases addEv_cases h with rfl | ⟨_, _, -, -, rfl⟩ | ⟨_, -, -, rfl⟩ | ⟨_, ⟨⟩, _⟩ | ⟨_, -, rfl⟩ <;> rfl,
    fun h => by rcases addEv_cases h with rfl | ⟨_, _, -, -, rfl⟩ | ⟨_, -, -, rfl⟩ | ⟨_, -, rfl⟩ | ⟨_, ⟨⟩, _⟩ <;> rfl⟩

/-- for properties with the same key the innermost scope wins (right-biased merge) -/
theorem C02_innermost_wins (outer inner : List (Str × Str)) (k : Str) :
    (mergeProps outer inner).lookup k = (inner.lookup k).orElse (fun _ => outer.lookup k) := by
  unfold mergeProps
  rw [List.lookup_append, lookup_filter_key (fun x => !(inner.map (·.1)).contains x) k outer,
    ← lookup_isSome_eq_contains]
  cases inner.lookup k <;> simp

/-! Non-vacuity: a concrete page through the generated lexer and the model — file scope, an H1 with two H2 children that
override / do not override `k`, and a second H1 (what the sibling after an overriding section sees is seed C02-2's case) -/
private def compileText (s : String) : Except Err PageResult :=
  compileToks ⟨2024, 6, 15⟩ "P3".toList ((lex Gen.FileLexer.rules s.toList).filter (·.name != "<err>"))

example : (match compileText "# T #ft k::file\n\n- n0\n\n################################ A #a k::1\n- n1\n\n======================== B #b k::2\n- n2\n\n======================== C #c\n- n3\n\n################################ D\n- n4\n" with
    | .ok r => r.notes.map (fun (n : Note) => (n.line, n.areas.map Str.toStr, n.props.map (fun (kv : Str × Str) => (Str.toStr kv.1, Str.toStr kv.2))))
    | .error _ => []) =
  [(3, ["ft"], [("k", "file")]), (6, ["a", "ft"], [("k", "1")]), (9, ["a", "b", "ft"], [("k", "2")]),
   (12, ["a", "c", "ft"], [("k", "1")]), (15, ["ft"], [("k", "file")])] := by
  rw [compileText]
  simp only [toList_lit rfl]
  decide +kernel

end ZorgVerif.C02

#print axioms ZorgVerif.C02.C02_innermost_wins
#print axioms ZorgVerif.C02.C02_flags
#print axioms ZorgVerif.C02.C02_comment_inert
