import ZorgVerif.Lemmas.Basic
import ZorgVerif.Lemmas.Rename
/-!
# C14 — `file rename` retargets every link to the page and nothing else
Model: `Model/Rename.lean` — `renameText` is Python's two `str.replace` passes; `spec` is the
one-pass reading of the statement: at every position where `[[A]` or `[[A#` starts, `[[A` becomes
`[[B`, every other character is copied.
-/
namespace ZorgVerif.C14
open ZorgVerif ZorgVerif.Rename

/-- The two textual replacement passes compute exactly the one-pass specification, for every text and
all link-safe names (no `[`, `]`, `#` in page names). -/
theorem C14_spec (a b : Str) (ha : linkSafe a = true) (hb : linkSafe b = true) (txt : Str) :
    renameText a b txt = spec a b 0 txt :=
  go2_go1_eq_spec a b (safe_of_linkSafe a ha) (safe_of_linkSafe b hb) txt

/-- A file without any `[[A]` / `[[A#` is unchanged — by the guard, and also by the replacement. -/
theorem C14_no_link_unchanged (a b txt : Str) (h : needsRewrite a txt = false) : renameText a b txt = txt := by
  have ⟨h1, h2⟩ := Bool.or_eq_false_iff.1 h
  rw [renameText, replaceAll, replaceAll, go_no_occurrence _ _ _ h1, go_no_occurrence _ _ _ h2]

/-- `[[A]…` becomes `[[B]…` and `[[A#…` becomes `[[B#…`, wherever they stand (`u` bracket-free). -/
theorem C14_links_retargeted (a b u v : Str) (ha : linkSafe a = true) (hb : linkSafe b = true)
    (hu : ∀ c ∈ u, c ≠ '[') :
    renameText a b (u ++ linkClose a ++ v) = u ++ linkClose b ++ renameText a b v ∧
    renameText a b (u ++ linkHash a ++ v) = u ++ linkHash b ++ renameText a b v := by
  simp only [C14_spec a b ha hb, List.append_assoc]
  exact ⟨(spec_append_ne a b u _ hu).trans (congrArg _ (spec_link a b (.inl rfl) v)),
    (spec_append_ne a b u _ hu).trans (congrArg _ (spec_link a b (.inr rfl) v))⟩

/-- Near misses: a link whose target merely extends `A` (`[[Ax…`, `[[A/x`, `[[A.zo`) or has `A` as a
suffix (`[[xA]]`, `[[x/A]]`) is a fixed point: in `[[` ++ t ++ `]]`, nothing is rewritten unless `t`
is `A` itself or starts with `A#`. -/
theorem C14_near_miss (a b t : Str) (ht : ∀ c ∈ t, c ≠ '[')
    (hne : ¬ (linkClose a).isPrefixOf ('[' :: '[' :: (t ++ [']', ']'])) = true)
    (hnh : ¬ (linkHash a).isPrefixOf ('[' :: '[' :: (t ++ [']', ']'])) = true) :
    spec a b 0 ('[' :: '[' :: (t ++ [']', ']'])) = '[' :: '[' :: (t ++ [']', ']']) := by
  have hu : ∀ c ∈ t ++ [']', ']'], c ≠ '[' := fun c hc =>
    (List.mem_append.1 hc).elim (ht c) fun h => by simp at h; rw [h]; decide
  have h0 : isLinkAt a ('[' :: '[' :: (t ++ [']', ']'])) = false :=
    Bool.or_eq_false_iff.2 ⟨Bool.eq_false_iff.2 hne, Bool.eq_false_iff.2 hnh⟩
  -- a link starts with `[[`, and the rest has no `[`
  have h1 : isLinkAt a ('[' :: (t ++ [']', ']'])) = false := by
    rw [← Bool.not_eq_true, isLinkAt_iff]
    rintro (h | h) <;>
      (obtain ⟨r, hr⟩ := (List.cons_prefix_cons.1 h).2; exact hu '[' (hr ▸ List.mem_cons_self) rfl)
  have h2 := spec_append_ne a b _ [] hu
  rw [List.append_nil, spec_nil, List.append_nil] at h2
  rw [spec_cons_of_not_link a b _ _ h0, spec_cons_of_not_link a b _ _ h1, h2]

/-- **The link name of the renamed file**: only a trailing `.zo` is dropped; a query page or template keeps its extension
in links (`[[inbox.zoq]]`), so renaming `inbox.zoq` never touches links to the page `inbox` (seed C14-2) -/
theorem C14_link_name (a : Str) :
    simplify (a ++ ".zo".toList) = a ∧
    simplify (a ++ ".zoq".toList) = a ++ ".zoq".toList ∧
    simplify (a ++ ".zot".toList) = a ++ ".zot".toList := by
  simp only [simplify, toList_lit rfl]
  -- a name whose last character is not `o` does not end in `.zo`
  have key : ∀ c, c ≠ 'o' → ¬ ['.', 'z', 'o'].isSuffixOf (a ++ ['.', 'z', 'o', c]) = true := by
    intro c hc h
    obtain ⟨t, ht⟩ := List.isSuffixOf_iff_suffix.1 h
    have := congrArg List.getLast? ht
    simp at this
    exact hc this.symm
  rw [if_pos (List.isSuffixOf_iff_suffix.2 (List.suffix_append _ _)), if_neg (key 'q' (by decide)),
    if_neg (key 't' (by decide))]
  simp

/-! Non-vacuity / examples (evaluated by the kernel) -/
example : renameText "foo".toList "sub/bar".toList "see [[foo]] [[foo#x]] [[foobar]] [[xfoo]] [[foo/x]] [foo] [[foo".toList
    = "see [[sub/bar]] [[sub/bar#x]] [[foobar]] [[xfoo]] [[foo/x]] [foo] [[foo".toList := by
  simp only [toList_lit rfl]
  decide +kernel
example : linkSafe "sicp(2e)".toList = true ∧ linkSafe "a#b".toList = false := by
  simp only [toList_lit rfl]
  decide +kernel

end ZorgVerif.C14

#print axioms ZorgVerif.C14.C14_spec
