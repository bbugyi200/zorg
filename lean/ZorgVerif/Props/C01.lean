import ZorgVerif.Gen.Consts
import ZorgVerif.Lemmas.Identity
import ZorgVerif.Lemmas.Zo
import ZorgVerif.Gen.FileLexer
/-!
# C01 — Compiling a page yields exactly the notes written in it
Model: `Model/Zo.lean` (generated file lexer → lines → page automaton → notes).  The theorems hold for
every token list, i.e. for every page text whatever its size and nesting.
-/
namespace ZorgVerif.C01
open ZorgVerif ZorgVerif.Lex ZorgVerif.Zo

/-- **Nothing that is not an item becomes a note; every note is an item's.**  A compiled page has at most
one note per item line, and every note carries the line number, the kind and the priority (explicit, or
the default for todos; none for plain notes) of an item line of the page.  Header comments, in-block
comments, section headers, blank and continuation lines never produce a note. -/
theorem C01_notes_are_items (today : Date) (dp : Str) (toks : List Tok) (res : PageResult)
    (h : compileToks today dp toks = .ok res) :
    res.notes.length ≤ itemCount (numberedLines toks) ∧
    ∀ note ∈ res.notes, FromLine dp (numberedLines toks) note := by
  have hs := (compileToks_notes h).1
  exact ⟨length_itemHeads dp _ ▸ List.length_map Note.head ▸ hs.length_le,
    fun n hn => fromLine_of_mem (hs.subset (List.mem_map_of_mem hn))⟩

/-- notes are appended in file order by the page automaton (each step only appends) -/
theorem C01_file_order (today : Date) (dp : Str) (fuel f : Nat) (st st' : St) (cur : Option Item) (lines : List Line)
    (h : bodyLines today dp fuel f st cur lines = .ok st') : st.notes <+: st'.notes :=
  let ⟨added, h1, _⟩ := bodyLines_notes (dp := dp) h
  ⟨added, h1.symm⟩

/-- the body, line, kind, priority, section path and block of a note are exactly those of its item -/
theorem C01_item_fields (today : Date) (dp : Str) (fuel : Nat) (st st' : St) (it : Item)
    (h : finishItem today dp fuel st it = .ok st') :
    st' = st ∨ ∃ note, st' = { st with notes := st.notes ++ [note], items := st.items + 1 } ∧
      note.line = it.lineNo ∧ note.kind = it.kind ∧ note.priority = prioOf dp it.kind it.priority ∧
      note.body = strip (itemBodyText it) ∧ note.body ≠ [] := by
  rcases finishItem_cases h with h1 | ⟨note, h1, h2, h3, h4, _, _, h7, h8⟩
  · exact Or.inl h1
  · exact Or.inr ⟨note, h1, h2, h3, h4, h7, h8⟩

/-- **Words that merely look like identity words never change the note's identity**: once three words of
the body have been read, whatever follows (`o`, `x`, `P5`, dates, times, ZIDs, anything) leaves the
modify date, the ZID and the note date untouched. -/
theorem C01_body_inert (pre post : List Ev) (h : 3 ≤ wordCount pre) : identity (pre ++ post) = identity pre :=
  identity_go_append post pre 0 0 none none none (by omega)

/-- …and three is tight: the ZID may be the second word (after a modify date) -/
theorem C01_identity_window_tight : ∃ pre post, wordCount pre = 2 ∧ identity (pre ++ post) ≠ identity pre := by
  let zidSet : Except Err (Option Date × Option Str × Option Date) → Bool := fun r =>
    match r with | .ok (_, z, _) => z.isSome | _ => false
  exact ⟨[.word, .id "240101".toList, .word], [.id "240101#ab".toList], by decide,
    fun h => absurd (congrArg zidSet h) (by decide)⟩

/-- **Source constants**: the date formats of `shared/dates.py` are the ones `Model/Date.lean` parses (`YYMMDD` read with a
`20` prefix, `YYYY-MM-DD`) -/
theorem C01_source_constants : Gen.shortDateFmt = "%Y%m%d" ∧ Gen.longDateFmt = "%Y-%m-%d" ∧
    Date.parseShort "690101".toList = some ⟨2069, 1, 1⟩ ∧ Date.parseLong "2150-03-01".toList = some ⟨2150, 3, 1⟩ := by decide +kernel

/-! Non-vacuity: a concrete page through the generated lexer and the model -/
def compileText (s : String) : Except Err PageResult :=
  compileToks ⟨2024, 6, 15⟩ "P3".toList ((lex Gen.FileLexer.rules s.toList).filter (·.name != "<err>"))

example : (match compileText "# T\n\n# c\no P1 240509 240408#0Y todo P5 o x 240510#0K\n  * cont\n- plain [#g]\n\n################################ S\nx done\n" with
    | .ok r => r.notes.map (fun (n : Note) => (n.line, n.priority.map Str.toStr, n.zid.map Str.toStr, n.sectionPath.map Str.toStr))
    | .error _ => []) =
  [(4, some "P1", some "240408#0Y", []), (6, none, none, []), (9, some "P3", none, ["S"])] := by
  rw [compileText]
  simp only [toList_lit rfl]
  decide +kernel
end ZorgVerif.C01

#print axioms ZorgVerif.C01.C01_body_inert
#print axioms ZorgVerif.C01.C01_identity_window_tight
#print axioms ZorgVerif.C01.C01_file_order
