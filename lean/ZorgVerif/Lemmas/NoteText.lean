import ZorgVerif.Model.NoteText
import ZorgVerif.Lemmas.Basic
/-! The line surgery of write-back and of `note move`.  One equation, `popLineBeforeZid_indent`, carries the write-back:
`addZidToLine` and `addOrUpdateModifyDate` are the same function but for the word they drop (`isLongDate` / `isSixDigits`).
The `#eval`s at the end run the functions on small lines and pages, among them those that the hypotheses exclude. -/
namespace ZorgVerif.NoteText
open ZorgVerif

theorem joinSp_splitOn (s : Str) : joinSp (splitOn ' ' s) = s := joinWith_splitOn ' ' s

theorem splitOn_joinSp (ws : List Str) (h : ws ≠ []) (hw : ∀ w ∈ ws, ' ' ∉ w) :
    splitOn ' ' (joinSp ws) = ws := splitOn_joinWith ' ' ws h hw

theorem joinSp_cons_cons (x y : Str) (t : List Str) :
    joinSp (x :: y :: t) = x ++ [' '] ++ joinSp (y :: t) := joinWith_cons_cons ..

def isPrioWord (w : Str) : Bool := match w with | ['P', d] => isDigit d | _ => false

/-- the words of a first line: `k` empty words of indentation, the kind symbol, the priority if any, `j` empty words of extra blanks, the body -/
def shapeWords (k : Nat) (sym : Str) (prio : List Str) (j : Nat) (body : List Str) : List Str :=
  List.replicate k [] ++ [sym] ++ prio ++ List.replicate j [] ++ body

/-- the text put back in front of the ZID / date -/
def shapePre (k : Nat) (sym : Str) (prio : List Str) : Str :=
  List.replicate k ' ' ++ sym ++ [' '] ++ (match prio with | [p] => p ++ [' '] | _ => [])

theorem dropWhile_nil_replicate (k : Nat) (t : List Str) (h : t.head? ≠ some []) :
    (List.replicate k ([] : Str) ++ t).dropWhile (· == []) = t := by
  rw [List.dropWhile_append_of_pos (by simp)]
  exact List.dropWhile_eq_self_of_head? fun a ha => beq_eq_false_iff_ne.2 fun e => h (e ▸ ha)

theorem popLineBeforeZid_indent (k : Nat) (sym : Str) (t : List Str) (hsym : sym ≠ []) :
    popLineBeforeZid (List.replicate k [] ++ sym :: t) =
      match t with
      | [] =>
        if sym == ['-'] then .ok (List.replicate k ' ' ++ sym ++ [' '], [])
        else .error (.indexError "words[0] after the symbol")
      | w :: rest =>
        .ok (List.replicate k ' ' ++ sym ++ [' '] ++
              (if (sym != ['-'] && isPrioWord w) = true then w ++ [' '] else []),
             (if (sym != ['-'] && isPrioWord w) = true then rest else w :: rest).dropWhile (· == [])) := by
  have hind : (List.replicate k [] ++ sym :: t).takeWhile (· == []) = List.replicate k [] := by
    rw [List.takeWhile_append_of_pos (by simp), List.takeWhile_cons_of_neg (by simpa using hsym),
      List.append_nil]
  unfold popLineBeforeZid
  simp only [hind, List.length_replicate, List.drop_left']
  cases t with
  | nil => rfl
  | cons w rest =>
    dsimp only
    rw [apply_ite Prod.fst, apply_ite Prod.snd]
    rfl

theorem popLineBeforeZid_noPrio (k : Nat) (sym : Str) (t : List Str) (hsym : sym ≠ [])
    (hne : sym = ['-'] ∨ t ≠ [])
    (hnp : sym ≠ ['-'] → ∀ w, t.head? = some w → isPrioWord w = false) :
    popLineBeforeZid (List.replicate k [] ++ sym :: t) =
      .ok (List.replicate k ' ' ++ sym ++ [' '], t.dropWhile (· == [])) := by
  rw [popLineBeforeZid_indent k sym t hsym]
  cases t with
  | nil =>
    have h : sym = ['-'] := hne.resolve_right fun h => h rfl
    rw [h]; rfl
  | cons w rest =>
    have : (sym != ['-'] && isPrioWord w) = false := by
      by_cases h : sym = ['-']
      · rw [h]; rfl
      · rw [hnp h w rfl, Bool.and_false]
    simp only [this, Bool.false_eq_true, if_false, List.append_nil]

/-- what `popLineBeforeZid_shape'` asks of the words `shapeWords k sym prio j body` -/
structure Shape (sym : Str) (prio : List Str) (j : Nat) (body : List Str) : Prop where
  sym_ne : sym ≠ []
  prio_ok : prio = [] ∨ (sym ≠ ['-'] ∧ ∃ d, isDigit d = true ∧ prio = [['P', d]])
  body_ok : body.head? ≠ some []
  after : sym = ['-'] ∨ prio ++ List.replicate j [] ++ body ≠ []
  no_prio : prio = [] → sym ≠ ['-'] →
    ∀ w, (List.replicate j [] ++ body).head? = some w → isPrioWord w = false

theorem popLineBeforeZid_shape' (k j : Nat) (sym : Str) (prio body : List Str)
    (h : Shape sym prio j body) :
    popLineBeforeZid (List.replicate k [] ++ [sym] ++ prio ++ List.replicate j [] ++ body) =
      .ok (List.replicate k ' ' ++ sym ++ [' '] ++
            (match (generalizing := false) prio with | [p] => p ++ [' '] | _ => []),
        body) := by
  rcases h.prio_ok with hp | ⟨hdash, d, hd, hp⟩
  · subst hp
    have := popLineBeforeZid_noPrio k sym (List.replicate j [] ++ body) h.sym_ne h.after (h.no_prio rfl)
    rw [dropWhile_nil_replicate j body h.body_ok] at this
    rw [List.append_nil, List.append_assoc, List.append_assoc, List.singleton_append, this, List.append_nil]
  · subst hp
    have := popLineBeforeZid_indent k sym (['P', d] :: (List.replicate j [] ++ body)) h.sym_ne
    have hp : (sym != ['-'] && isPrioWord ['P', d]) = true :=
      Bool.and_eq_true_iff.2 ⟨bne_iff_ne.2 hdash, hd⟩
    simp only [hp, if_true, dropWhile_nil_replicate j body h.body_ok] at this
    rw [List.append_assoc, List.append_assoc, List.append_assoc, List.singleton_append,
      List.singleton_append, this]

def dropLeading (p : Str → Bool) (body : List Str) : List Str :=
  match body with
  | w :: r => if p w then r else body
  | [] => []

/-- the line need not be the words joined: it is enough that it splits into them -/
theorem addOrUpdateModifyDate_of_words (date line : Str) {k j : Nat} {sym : Str} {prio body : List Str}
    (h : Shape sym prio j body) (hw : splitOn ' ' line = shapeWords k sym prio j body) :
    addOrUpdateModifyDate date line =
      .ok (shapePre k sym prio ++ date ++ [' '] ++ joinSp (dropLeading isSixDigits body)) := by
  unfold addOrUpdateModifyDate
  rw [hw, shapeWords, popLineBeforeZid_shape' k j sym prio body h]
  rfl

theorem isPrioWord_length (w : Str) (h : isPrioWord w = true) : w.length = 2 := by
  unfold isPrioWord at h
  split at h
  · rfl
  · cases h

theorem isSixDigits_no_space (d : Str) (h : isSixDigits d = true) : ' ' ∉ d := by
  intro hm
  simp only [isSixDigits, Bool.and_eq_true, List.all_eq_true] at h
  have := h.2 _ hm
  exact absurd this (by decide)

theorem splitOn_shapePre (k : Nat) (sym : Str) (prio : List Str) (t : Str) (hsym : ' ' ∉ sym)
    (hprio : ∀ p ∈ prio, ' ' ∉ p) (hp : prio = [] ∨ ∃ p, prio = [p]) :
    splitOn ' ' (shapePre k sym prio ++ t) = shapeWords k sym prio 0 (splitOn ' ' t) := by
  rcases hp with rfl | ⟨p, rfl⟩
  · simp [shapePre, shapeWords, splitOn_replicate_sep, splitOn_append_sep ' ' sym _ hsym]
  · simp [shapePre, shapeWords, splitOn_replicate_sep, splitOn_append_sep ' ' sym _ hsym,
      splitOn_append_sep ' ' p _ (hprio p (List.mem_singleton_self p))]

theorem addOrUpdateModifyDate_stamped (d1 d2 : Str) (k : Nat) (sym : Str) (prio : List Str) (rest : Str)
    (hsym : sym ≠ []) (hp : prio = [] ∨ (sym ≠ ['-'] ∧ ∃ d, isDigit d = true ∧ prio = [['P', d]]))
    (hsp : ' ' ∉ sym) (hprio : ∀ p ∈ prio, ' ' ∉ p) (hd1 : isSixDigits d1 = true) :
    addOrUpdateModifyDate d2 (shapePre k sym prio ++ d1 ++ [' '] ++ rest) =
      .ok (shapePre k sym prio ++ d2 ++ [' '] ++ rest) := by
  have hlen : d1.length = 6 := by
    simp only [isSixDigits, Bool.and_eq_true, beq_iff_eq] at hd1; exact hd1.1
  have hw : splitOn ' ' (shapePre k sym prio ++ d1 ++ [' '] ++ rest) =
      shapeWords k sym prio 0 (d1 :: splitOn ' ' rest) := by
    rw [List.append_assoc, List.append_assoc, splitOn_shapePre k sym prio _ hsp hprio
      (hp.imp id fun ⟨_, d, _, h⟩ => ⟨_, h⟩), List.singleton_append,
      splitOn_append_sep _ _ _ (isSixDigits_no_space d1 hd1)]
  -- the stamp is the first word after the prefix: six characters, so neither empty nor `Pn`
  have hshape : Shape sym prio 0 (d1 :: splitOn ' ' rest) :=
    { sym_ne := hsym
      prio_ok := hp
      body_ok := fun e => by cases Option.some.inj e; cases hlen
      after := Or.inr (by simp)
      no_prio := fun _ _ w hw => by
        cases Option.some.inj hw
        exact Bool.eq_false_iff.2 fun hq => by have := isPrioWord_length d1 hq; omega }
  rw [addOrUpdateModifyDate_of_words d2 _ hshape hw, dropLeading, if_pos hd1, joinSp_splitOn]

theorem updateLines_spec (f : Str → Str → Except Err Str) (us : List Upd) (ls ls' : List Str)
    (h : updateLines f us ls = .ok ls') :
    ls'.length = ls.length ∧
      ∀ i, (∀ u ∈ us, u.lineNo - 1 ≠ i) → ls'[i]? = ls[i]? := by
  induction us generalizing ls with
  | nil => cases h; exact ⟨rfl, fun _ _ => rfl⟩
  | cons u us ih =>
    unfold updateLines at h
    split at h
    · cases h
    · obtain ⟨l', _, h⟩ := Except.bind_eq_ok.1 h
      obtain ⟨h1, h2⟩ := ih _ h
      refine ⟨by rw [h1, List.length_set], fun i hi => ?_⟩
      rw [h2 i fun u' hu' => hi u' (List.mem_cons_of_mem _ hu')]
      exact List.getElem?_set_ne (hi u (List.mem_cons_self ..))

/-- the characters `str.split()` and `str.lstrip()` take for whitespace; the model writes the test out wherever it uses it -/
abbrev pyWs (c : Char) : Bool := c == ' ' || c == '\t' || c == '\n' || c == '\r' || c == '\x0b' || c == '\x0c'

theorem addZidToBody_word (zid w rest : Str) (hne : w ≠ []) (hw : ∀ c ∈ w, pyWs c = false)
    (hr : ∀ c, rest.head? = some c → pyWs c = true) :
    addZidToBody zid (w ++ rest) = zid ++ [' '] ++
      (if isLongDate w then (match (generalizing := false) rest with | ' ' :: t => t | _ => rest) else w ++ rest) := by
  unfold addZidToBody
  have hd : (w ++ rest).dropWhile pyWs = w ++ rest := by
    cases w with
    | nil => exact absurd rfl hne
    | cons c cs => exact List.dropWhile_cons_of_neg (Bool.eq_false_iff.mp (hw c (List.mem_cons_self ..)))
  have htw : (w ++ rest).takeWhile (fun c => !pyWs c) = w := by
    rw [List.takeWhile_append_of_pos (fun c hc => congrArg not (hw c hc))]
    cases rest with
    | nil => exact List.append_nil w
    | cons c t =>
      simp only [List.takeWhile_cons, hr c rfl, Bool.not_true, Bool.false_eq_true, if_false,
        List.append_nil]
  simp only [hd, htw, List.drop_left]
  split <;> rfl

theorem insertionIndex_go_blank (i : Nat) (b f : Bool) (start : Nat) (ls : List Str) :
    (insertionIndex.go i b f start ls).1 = start ∨
      ∃ m, m < ls.length ∧ (insertionIndex.go i b f start ls).1 = i + m ∧
        isBlankLine (ls.getD m []) = true := by
  induction ls generalizing i b f start with
  | nil => left; rfl
  | cons l rest ih =>
    unfold insertionIndex.go
    simp only []
    split
    · next hc =>
      rcases ih (i + 1) false (f || startsWithItem l) i with h | ⟨m, hm, he, hb⟩
      · exact .inr ⟨0, Nat.zero_lt_succ _, h, (Bool.and_eq_true _ _ ▸ hc).2⟩
      · exact .inr ⟨m + 1, Nat.succ_lt_succ hm, by rw [he, Nat.add_assoc, Nat.add_comm 1], hb⟩
    · rcases ih (i + 1) (b || startsWithItem l) (f || startsWithItem l) start with h | ⟨m, hm, he, hb⟩
      · exact .inl h
      · exact .inr ⟨m + 1, Nat.succ_lt_succ hm, by rw [he, Nat.add_assoc, Nat.add_comm 1], hb⟩

/-- `b`, `f` are the scan's `inNote`, `found`: a scan that ends with `found = false` never was inside a note, so `start`
comes back as it went in -/
theorem insertionIndex_go_notFound (i : Nat) (b f : Bool) (start : Nat) (ls : List Str)
    (h : (insertionIndex.go i b f start ls).2.1 = false) :
    f = false ∧ (b = false → (insertionIndex.go i b f start ls).1 = start) := by
  induction ls generalizing i b f start with
  | nil => exact ⟨h, fun _ => rfl⟩
  | cons l rest ih =>
    unfold insertionIndex.go at h ⊢
    simp only [] at h ⊢
    split
    · next hc =>
      rw [if_pos hc] at h
      have h1 := (ih _ _ _ _ h).1
      simp only [Bool.or_eq_false_iff] at h1
      refine ⟨h1.1, fun hb => ?_⟩
      rw [hb, h1.2] at hc
      simp at hc
    · next hc =>
      rw [if_neg hc] at h
      have h1 := ih _ _ _ _ h
      simp only [Bool.or_eq_false_iff] at h1
      exact ⟨h1.1.1, fun hb => h1.2 (by simp [hb, h1.1.2])⟩

theorem insertionIndex_last_or_blank (lines : List Str) :
    (insertionIndex lines).1 = lines.length - 1 ∨
      ((insertionIndex lines).1 < lines.length ∧
        isBlankLine (lines.getD (insertionIndex lines).1 []) = true) := by
  unfold insertionIndex
  rcases insertionIndex_go_blank 0 false false (lines.length - 1) lines with h | ⟨m, hm, he, hb⟩
  · exact Or.inl h
  · rw [Nat.zero_add] at he
    rw [he]
    exact Or.inr ⟨hm, hb⟩

theorem insertionIndex_lt (lines : List Str) (h : lines ≠ []) :
    (insertionIndex lines).1 < lines.length := by
  have hl : 0 < lines.length := List.length_pos_iff.mpr h
  rcases insertionIndex_last_or_blank lines with h | h
  · omega
  · exact h.1

theorem insertionIndex_le (lines : List Str) : (insertionIndex lines).1 ≤ lines.length := by
  cases lines with
  | nil => simp [insertionIndex, insertionIndex.go]
  | cons l ls => exact Nat.le_of_lt (insertionIndex_lt _ (by simp))

/-- case 1 of `add_note`: the target line is not blank (no trailing newline) -/
def targetNotBlank (lines : List Str) : Bool :=
  !isBlankLine (lines.getD (insertionIndex lines).1 [])

/-- case 2 of `add_note`: no item line was seen and the line before the (blank) target has a non-whitespace character -/
def headerOnly (lines : List Str) : Bool :=
  !(insertionIndex lines).2.1 && decide ((insertionIndex lines).1 > 0) &&
    !isWsLine (lines.getD ((insertionIndex lines).1 - 1) [])

theorem addNote_eq (lines n : List Str) :
    addNote lines n =
      if targetNotBlank lines then
        lines.take ((insertionIndex lines).1 + 1) ++
          (if (insertionIndex lines).2.2 then [] else [[]]) ++ n
      else if headerOnly lines then lines.take ((insertionIndex lines).1 + 1) ++ n
      else lines.take (insertionIndex lines).1 ++ n ++ lines.drop ((insertionIndex lines).1 + 1) := by
  unfold addNote targetNotBlank headerOnly
  rcases insertionIndex lines with ⟨k, found, inNote⟩
  rfl

theorem isBlankLine_nil : isBlankLine [] = true := rfl

/-! In the two append cases the target line is the last line of the page, so the whole page is kept. -/

theorem targetNotBlank_last (lines : List Str) (h : targetNotBlank lines = true) :
    (insertionIndex lines).1 + 1 = lines.length := by
  simp only [targetNotBlank, Bool.not_eq_true'] at h
  rcases insertionIndex_last_or_blank lines with e | ⟨_, hb⟩
  · cases lines with
    | nil => exact absurd h (by simp [isBlankLine_nil])
    | cons l ls => rw [e]; simp
  · rw [hb] at h; exact absurd h (by simp)

theorem headerOnly_last (lines : List Str) (h : headerOnly lines = true) :
    (insertionIndex lines).1 + 1 = lines.length := by
  simp only [headerOnly, Bool.and_eq_true, Bool.not_eq_true', decide_eq_true_eq] at h
  have e := (insertionIndex_go_notFound 0 false false (lines.length - 1) lines h.1.1).2 rfl
  have := h.1.2
  unfold insertionIndex at this ⊢
  omega

theorem addNote_append_targetNotBlank (lines n : List Str) (h : targetNotBlank lines = true) :
    addNote lines n = lines ++ (if (insertionIndex lines).2.2 then [] else [[]]) ++ n := by
  rw [addNote_eq, if_pos h, List.take_of_length_le (Nat.le_of_eq (targetNotBlank_last lines h).symm)]

theorem addNote_append_headerOnly (lines n : List Str) (h1 : targetNotBlank lines = false)
    (h2 : headerOnly lines = true) : addNote lines n = lines ++ n := by
  rw [addNote_eq, h1, if_neg (by simp), if_pos h2,
    List.take_of_length_le (Nat.le_of_eq (headerOnly_last lines h2).symm)]

theorem addNote_replace (lines n : List Str) (h1 : targetNotBlank lines = false)
    (h2 : headerOnly lines = false) :
    addNote lines n = lines.take (insertionIndex lines).1 ++ n ++
      lines.drop ((insertionIndex lines).1 + 1) := by
  rw [addNote_eq, h1, h2, if_neg (by simp), if_neg (by simp)]

/-- on the empty page the line that is replaced is the one that is not there -/
theorem addNote_cases (lines n : List Str) :
    ((insertionIndex lines).1 + 1 = lines.length ∧ ∃ sep, addNote lines n = lines ++ sep ++ n) ∨
    (isBlankLine (lines.getD (insertionIndex lines).1 []) = true ∧
      addNote lines n =
        lines.take (insertionIndex lines).1 ++ n ++ lines.drop ((insertionIndex lines).1 + 1)) := by
  cases h1 : targetNotBlank lines with
  | true => exact .inl ⟨targetNotBlank_last lines h1, _, addNote_append_targetNotBlank lines n h1⟩
  | false =>
    cases h2 : headerOnly lines with
    | true =>
      exact .inl ⟨headerOnly_last lines h2, [],
        by rw [List.append_nil, addNote_append_headerOnly lines n h1 h2]⟩
    | false => exact .inr ⟨by simpa [targetNotBlank] using h1, addNote_replace lines n h1 h2⟩

theorem addNote_length_append (lines n : List Str) :
    (targetNotBlank lines = true →
      addNote lines n = lines ++ (if (insertionIndex lines).2.2 then [] else [[]]) ++ n ∧
      (addNote lines n).length =
        lines.length + (if (insertionIndex lines).2.2 then 0 else 1) + n.length) ∧
    (targetNotBlank lines = false → headerOnly lines = true →
      addNote lines n = lines ++ n ∧ (addNote lines n).length = lines.length + n.length) := by
  refine ⟨fun h => ?_, fun h1 h2 => ?_⟩
  · rw [addNote_append_targetNotBlank lines n h, List.length_append, List.length_append]
    refine ⟨rfl, ?_⟩
    cases (insertionIndex lines).2.2 <;> rfl
  · rw [addNote_append_headerOnly lines n h1 h2]
    exact ⟨rfl, List.length_append⟩

theorem getElem?_splice_left {α : Type} (l n : List α) (i j m : Nat) (hm : m < i) (hi : i ≤ l.length) :
    (l.take i ++ n ++ l.drop j)[m]? = l[m]? := by
  rw [List.append_assoc, List.getElem?_append_left, List.getElem?_take_of_lt hm]
  rw [List.length_take, Nat.min_eq_left hi]
  exact hm

theorem getElem?_splice_right {α : Type} (l n : List α) (i j m : Nat) (hi : i ≤ l.length) :
    (l.take i ++ n ++ l.drop j)[i + n.length + m]? = l[j + m]? := by
  have hlen : (l.take i ++ n).length = i + n.length := by
    rw [List.length_append, List.length_take, Nat.min_eq_left hi]
  rw [List.getElem?_append_right (by rw [hlen]; exact Nat.le_add_right _ _), hlen,
    Nat.add_sub_cancel_left, List.getElem?_drop]

theorem deleteNote_spec (lines : List Str) (zid : Str) (n : Nat) (r : List Str)
    (h : deleteNote lines zid n = some r) :
    ∃ i, lines.findIdx? (isFirstLineOf zid) = some i ∧
      r = lines.take i ++ lines.drop (i + n) ∧
      isFirstLineOf zid (lines.getD i []) = true ∧
      (∀ j, j < i → isFirstLineOf zid (lines.getD j []) = false) ∧
      r.length + min n (lines.length - i) = lines.length := by
  unfold deleteNote at h
  split at h
  · cases h
  · next i hi =>
    cases h
    obtain ⟨hlt, hi1, hi2⟩ := List.findIdx?_eq_some_iff_getElem.mp hi
    refine ⟨i, hi, rfl, ?_, fun j hj => ?_, ?_⟩
    · rw [List.getD_eq_getElem?_getD, List.getElem?_eq_getElem hlt]; exact hi1
    · rw [List.getD_eq_getElem?_getD, List.getElem?_eq_getElem (Nat.lt_trans hj hlt)]
      exact Bool.eq_false_iff.mpr (hi2 j hj)
    · -- `i` lines before the block, `min n (length - i)` in it, `length - (i + n)` after it
      rw [List.length_append, List.length_take_of_le (Nat.le_of_lt hlt), List.length_drop,
        Nat.sub_add_eq, Nat.add_assoc, Nat.min_comm, Nat.sub_add_min_cancel,
        Nat.add_sub_of_le (Nat.le_of_lt hlt)]

/-- info: Except.ok ("  o P1 ", ["foo", "bar"]) -/
#guard_msgs in
#eval (popLineBeforeZid (splitOn ' ' "  o P1  foo bar".toList)).map
  (fun (p, b) => (String.ofList p, b.map String.ofList))

/-- info: Except.ok ("- ", ["P1", "x"]) -/
#guard_msgs in
#eval (popLineBeforeZid (splitOn ' ' "- P1 x".toList)).map
  (fun (p, b) => (String.ofList p, b.map String.ofList))

/-- info: Except.ok (" - ", []) -/
#guard_msgs in
#eval (popLineBeforeZid (splitOn ' ' " -".toList)).map
  (fun (p, b) => (String.ofList p, b.map String.ofList))

-- without "at least one word after `sym`" the call raises
/-- info: true -/
#guard_msgs in
#eval (popLineBeforeZid (splitOn ' ' "o".toList)) matches .error _

-- without the "not `Pn`" hypothesis the first body word is taken for the priority
/-- info: Except.ok ("o P1 ", ["x"]) -/
#guard_msgs in
#eval (popLineBeforeZid ([] ++ ["o".toList] ++ [] ++ [] ++ ["P1".toList, "x".toList])).map
  (fun (p, b) => (String.ofList p, b.map String.ofList))

/-- info: Except.ok "  o P1 ZID foo bar" -/
#guard_msgs in
#eval (addZidToLine "ZID".toList "  o P1  2026-09-27 foo bar".toList).map String.ofList

/-- info: Except.ok "- 260927 " -/
#guard_msgs in
#eval (addOrUpdateModifyDate "260927".toList "-".toList).map String.ofList

/-- info: Except.ok "- 260928 " -/
#guard_msgs in
#eval (addOrUpdateModifyDate "260928".toList "- 260927 ".toList).map String.ofList

/-- info: ((2, true, true), true, false, ["- a", "o b", "- n", ""]) -/
#guard_msgs in
#eval let ls := ["h", "- a", "o b"].map String.toList
  (insertionIndex ls, targetNotBlank ls, headerOnly ls,
    (addNote ls (["- n", ""].map String.toList)).drop 1 |>.map String.ofList)

-- case 1 on a page that does not end inside a note: an empty line separates (case 1 has precedence
-- over `headerOnly`, which also evaluates to true here)
/-- info: ((1, false, false), true, true, ["h", "text", "", "- n", ""]) -/
#guard_msgs in
#eval let ls := ["h", "text"].map String.toList
  (insertionIndex ls, targetNotBlank ls, headerOnly ls,
    (addNote ls (["- n", ""].map String.toList)).map String.ofList)

/-- info: ((1, false, false), false, true, ["h", "", "- n", ""]) -/
#guard_msgs in
#eval let ls := ["h", ""].map String.toList
  (insertionIndex ls, targetNotBlank ls, headerOnly ls,
    (addNote ls (["- n", ""].map String.toList)).map String.ofList)

/-- info: ((2, true, false), false, false, ["h", "- a", "- n", "", "tail"]) -/
#guard_msgs in
#eval let ls := ["h", "- a", "", "tail"].map String.toList
  (insertionIndex ls, targetNotBlank ls, headerOnly ls,
    (addNote ls (["- n", ""].map String.toList)).map String.ofList)

end ZorgVerif.NoteText
