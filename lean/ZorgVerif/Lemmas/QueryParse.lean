import ZorgVerif.Model.QuerySyn
import ZorgVerif.Lemmas.Basic
/-! `parseToks (toks s) = denote s`: the token-level recursive-descent model computes the denotation of
every well-formed syntax tree.  Every parser `f` is characterised in the same way (`f_spec`): run on the rendering
of a piece of syntax followed by a remainder at which it stops, it returns the denotation and the remainder.
The remainders are described by the parsers' own lookahead: `andMore`, `orMore`, `orderMore`, `groupMore` say
that a parser goes on, `atomStop`, `andStop`, `orStop` that it does not.  `f_<head>` is the equation of
`f` on one form of first token. -/
namespace ZorgVerif.Query
open ZorgVerif ZorgVerif.Lex

@[simp] theorem tk_name (n s : String) : (tk n s).name = n := rfl
@[simp] theorem tk_text (n s : String) : (tk n s).text = s.toList := rfl
@[simp] theorem isId_tk (n s : String) : isId (tk n s) = idNames.contains n := rfl
@[simp] theorem sp_name : sp.name = "SPACE" := rfl

theorem IdTok.name_ne (i : IdTok) (s : String) (hs : idNames.contains s = false := by simp [idNames]) :
    i.tok.name ≠ s :=
  fun e => by rw [← e, ← isId, i.ok] at hs; cases hs

theorem IdTok.tagOf (i : IdTok) : tagOf i.tok = none := by
  simp [Query.tagOf, i.name_ne "HASH", i.name_ne "AT_SIGN", i.name_ne "PERCENT", i.name_ne "PLUS"]

theorem tagOf_tok (k : TagKind) : tagOf k.tok = some k := by cases k <;> rfl

theorem kindOf_tok (k : KindChar) : kindOf k.tok = some k.kind := by cases k <;> rfl

theorem parseNegatable_tag (fuel : Nat) (neg : Bool) (k : TagKind) (name : IdTok) (rest : List Tok) :
    parseNegatable fuel neg (k.tok :: name.tok :: rest) = .ok (.tag k neg name.tok.text, rest) := by
  unfold parseNegatable
  simp [tagOf_tok, name.ok]

/-- `id COLON op? value` for any value token: the texts of `op` and `value` go to `splitOpValue` -/
theorem parseNegatable_prop (fuel : Nat) (neg : Bool) (key : IdTok) (op : OpSyn) (v : Tok) (rest : List Tok)
    (hv : isValueTok v = true)
    (hop : v.name ≠ "LANGLE" ∧ v.name ≠ "'<='" ∧ v.name ≠ "'>='" ∧ v.name ≠ "RANGLE") :
    parseNegatable fuel neg (key.tok :: tk "COLON" ":" :: (op.toks ++ v :: rest)) =
      .ok (.prop key.tok.text (splitOpValue (textOf op.toks ++ v.text)).2 (splitOpValue (textOf op.toks ++ v.text)).1
        (valueType (splitOpValue (textOf op.toks ++ v.text)).2) neg, rest) := by
  unfold parseNegatable
  simp [key.tagOf, key.name_ne "'c'", key.name_ne "SQUOTE", key.name_ne "DQUOTE", key.name_ne "'f='",
    key.name_ne "'[['", key.ok]
  cases op <;> simp [OpSyn.toks, hv, hop, textOf]

theorem splitOpValue_op (op : OpSyn) (v : Str) (h : valueOk v = true) :
    splitOpValue (textOf op.toks ++ v) = (op.op, v) := by
  match v, h with
  | c :: w, h =>
    have hc : c ≠ '<' ∧ c ≠ '>' ∧ c ≠ '=' ∧ c ≠ '*' := by simpa [valueOk, and_assoc] using h
    cases op <;> unfold splitOpValue <;> simp [OpSyn.toks, textOf, OpSyn.op, hc]

def dirToks (dirs : List IdTok) : List Tok := dirs.flatMap (fun d => [d.tok, tk "FSLASH" "/"])

theorem PathSyn.toks_eq (p : PathSyn) : p.toks = dirToks p.dirs ++ [p.last.tok] := rfl

theorem dirToks_length (dirs : List IdTok) : (dirToks dirs).length = 2 * dirs.length := by
  simp [dirToks, List.length_flatMap, List.map_const', List.sum_replicate_nat, Nat.mul_comm]

theorem idPath_spec (last : IdTok) {rest : List Tok} (hr : peekIs "FSLASH" rest = false) (dirs : List IdTok)
    (fuel : Nat) (hf : dirs.length + 1 ≤ fuel) :
    idPath fuel (dirToks dirs ++ last.tok :: rest) = .ok (dirToks dirs ++ [last.tok], rest) := by
  induction dirs generalizing fuel with
  | nil =>
    obtain ⟨f, rfl, -⟩ := exists_fuel hf
    cases rest <;> simp_all [dirToks, idPath, last.ok, peekIs]
  | cons d ds ih =>
    obtain ⟨f, rfl, hf'⟩ := exists_fuel hf
    have ih' := ih f hf'
    cases ds <;> simp_all [dirToks, idPath, d.ok, last.ok, IdTok.ok, Except.map]

theorem parseNegatable_link (fuel : Nat) (neg : Bool) (p : PathSyn) (rest : List Tok) (hf : p.dirs.length + 1 ≤ fuel) :
    parseNegatable fuel neg (tk "'[['" "[[" :: (p.toks ++ tk "']]'" "]]" :: rest)) =
      .ok (.link (textOf p.toks) neg, rest) := by
  unfold parseNegatable
  have h := idPath_spec p.last (rest := tk "']]'" "]]" :: rest) rfl p.dirs fuel hf
  simp [tagOf, PathSyn.toks_eq, h, expect, bind, Except.bind, pure, Except.pure]

/-- what may follow an atom: the end of the input, a `SPACE` or a `RPAREN`.  No lookahead of an atom parser (a further
kind character, `COLON`, `DASH`, `DATE_RANGE_TAIL`) accepts one of these, so each of them stops there. -/
def atomStop : List Tok → Bool
  | [] => true
  | t :: _ => t.name == "SPACE" || t.name == "RPAREN"

theorem atomStop_cases {rest : List Tok} (h : atomStop rest = true) :
    rest = [] ∨ (∃ tx r, rest = ⟨"SPACE", tx⟩ :: r) ∨ (∃ tx r, rest = ⟨"RPAREN", tx⟩ :: r) := by
  match rest, h with
  | [], _ => exact .inl rfl
  | ⟨nm, tx⟩ :: r, h =>
    simp only [atomStop, Bool.or_eq_true, beq_iff_eq] at h
    rcases h with rfl | rfl
    · exact .inr (.inl ⟨_, _, rfl⟩)
    · exact .inr (.inr ⟨_, _, rfl⟩)

theorem atomStop_peekIs {rest : List Tok} (h : atomStop rest = true) (nm : String)
    (hn : nm ≠ "SPACE" ∧ nm ≠ "RPAREN" := by simp) : peekIs nm rest = false := by
  rcases atomStop_cases h with rfl | ⟨tx, r, rfl⟩ | ⟨tx, r, rfl⟩ <;> simp [peekIs, hn.1.symm, hn.2.symm]

theorem kindsRun_spec (ks : List KindChar) (rest : List Tok) (hr : atomStop rest = true) :
    kindsRun (ks.map KindChar.tok ++ rest) = (ks.map KindChar.kind, rest) := by
  induction ks with
  | nil => rcases atomStop_cases hr with rfl | ⟨tx, r, rfl⟩ | ⟨tx, r, rfl⟩ <;> simp [kindsRun, kindOf]
  | cons k ks ih => simp [kindsRun, kindOf_tok, ih]

/-- the optional end of a date range, as `AtomSyn.toks` renders it behind the head token -/
def tailToks : Option Str → List Tok
  | some e => [⟨"DATE_RANGE_TAIL", ':' :: e⟩]
  | none => []

theorem parseDateRange_spec {today : Date} {nm : String} {c : Char} {s : Str} {e : Option Str} {rest : List Tok}
    (hr : atomStop rest = true) :
    parseDateRange today ⟨nm, c :: s⟩ (tailToks e ++ rest) = (rangeOf today s e).map (fun d => (d, rest)) := by
  cases e with
  | some e =>
    simp only [tailToks, parseDateRange, rangeOf, List.drop_succ_cons, List.drop_zero, List.cons_append, List.nil_append]
    cases fromDateSpec today s <;> cases fromDateSpec today e <;> rfl
  | none =>
    rcases atomStop_cases hr with rfl | ⟨tx, r, rfl⟩ | ⟨tx, r, rfl⟩ <;>
      simp only [tailToks, parseDateRange, rangeOf, List.drop_succ_cons, List.drop_zero, List.nil_append] <;>
      cases fromDateSpec today s <;> rfl

/-- how `parseAtom` returns the result of `parseNegatable`: an atom, not a sub-filter -/
abbrev inlRes (r : Except Err (Atom × List Tok)) : Except Err ((Atom ⊕ OrF) × List Tok) :=
  r.map (fun (a, r) => (.inl a, r))

theorem parseAtom_lparen (today : Date) (f : Nat) (body : List Tok) :
    parseAtom today (f + 1) (tk "LPAREN" "(" :: body) =
      (parseOr today f body).bind (fun (o, r1) => (expect "RPAREN" r1).bind (fun (_, r2) => .ok (.inr o, r2))) := by
  simp [parseAtom]
  rfl

theorem parseAtom_bang (today : Date) (f : Nat) (body : List Tok) :
    parseAtom today (f + 1) (tk "'!'" "!" :: body) = inlRes (parseNegatable f true body) := by
  simp [parseAtom]

theorem parseAtom_negToks (today : Date) (f : Nat) (neg : Bool) {t : Tok} {body : List Tok}
    (h : parseAtom today (f + 1) (t :: body) = inlRes (parseNegatable f false (t :: body))) :
    parseAtom today (f + 1) (negToks neg ++ t :: body) = inlRes (parseNegatable f neg (t :: body)) := by
  cases neg
  · exact h
  · exact parseAtom_bang today f _

theorem parseAtom_tagTok (today : Date) (f : Nat) (k : TagKind) (body : List Tok) :
    parseAtom today (f + 1) (k.tok :: body) = inlRes (parseNegatable f false (k.tok :: body)) := by
  cases k <;> simp [parseAtom, TagKind.tok, kindOf, idNames]

theorem parseAtom_idColon (today : Date) (f : Nat) (key : IdTok) (body : List Tok) :
    parseAtom today (f + 1) (key.tok :: tk "COLON" ":" :: body) =
      inlRes (parseNegatable f false (key.tok :: tk "COLON" ":" :: body)) := by
  simp [parseAtom, key.name_ne "LPAREN", key.name_ne "'!'", key.name_ne "CREATE_RANGE_HEAD",
    key.name_ne "MODIFY_RANGE_HEAD", key.ok, peekIs]

theorem parseAtom_link (today : Date) (f : Nat) (body : List Tok) :
    parseAtom today (f + 1) (tk "'[['" "[[" :: body) = inlRes (parseNegatable f false (tk "'[['" "[[" :: body)) := by
  simp [parseAtom, kindOf, idNames]

theorem parseAtom_kind (today : Date) (f : Nat) (k : KindChar) (rest : List Tok) (hc : peekIs "COLON" rest = false) :
    parseAtom today (f + 1) (k.tok :: rest) =
      .ok (.inl (.kinds (kindsRun (k.tok :: rest)).1), (kindsRun (k.tok :: rest)).2) := by
  cases k <;> simp [parseAtom, KindChar.tok, kindOf, hc]

theorem parseAtom_created (today : Date) (f : Nat) (tx : Str) (rest : List Tok) :
    parseAtom today (f + 1) (⟨"CREATE_RANGE_HEAD", tx⟩ :: rest) =
      (parseDateRange today ⟨"CREATE_RANGE_HEAD", tx⟩ rest).map (fun (d, r) => (.inl (.created d), r)) := by
  simp [parseAtom]

theorem parseAtom_modified (today : Date) (f : Nat) (tx : Str) (rest : List Tok) :
    parseAtom today (f + 1) (⟨"MODIFY_RANGE_HEAD", tx⟩ :: rest) =
      (parseDateRange today ⟨"MODIFY_RANGE_HEAD", tx⟩ rest).map (fun (d, r) => (.inl (.modified d), r)) := by
  simp [parseAtom]

theorem parseAtom_prio (today : Date) (f : Nat) (tx : Str) (rest : List Tok)
    (hc : peekIs "COLON" rest = false) (hd : peekIs "DASH" rest = false) :
    parseAtom today (f + 1) (⟨"PRIORITY", tx⟩ :: rest) =
      .ok (.inl (.priorities [digitVal (tx.getLastD '0')]), rest) := by
  simp [parseAtom, hc, prioritiesOf]
  split
  · simp_all [peekIs]
  · rfl

theorem parseAtom_prioRange (today : Date) (f : Nat) (tx : Str) (m : Tok) (rest : List Tok)
    (hm : m.name ∈ digit19) :
    parseAtom today (f + 1) (⟨"PRIORITY", tx⟩ :: tk "DASH" "-" :: m :: rest) =
      .ok (.inl (.priorities (prioritiesOf (digitVal (tx.getLastD '0')) (some (digitVal (m.text.headD '0'))))), rest) := by
  simp [parseAtom, peekIs, hm]

/-- what `parseAnd` asks of the token behind a `SPACE` before it reads another atom -/
def startOk (t : Tok) : Bool := !(t.name == "'|'" || t.name == "'O'" || t.name == "'G'")

/-- the list begins with such a token; every rendering of an atom or item does, so `parseAnd` goes on in front of it -/
def startsAtom : List Tok → Bool
  | t :: _ => startOk t
  | [] => false

theorem startsAtom_append {l : List Tok} (h : startsAtom l = true) (r : List Tok) : startsAtom (l ++ r) = true := by
  cases l with
  | nil => cases h
  | cons t ts => exact h

theorem length_pos_of_startsAtom {l : List Tok} (h : startsAtom l = true) : 1 ≤ l.length := by
  cases l with
  | nil => cases h
  | cons t ts => exact Nat.succ_le_succ (Nat.zero_le _)

theorem startOk_id (i : IdTok) : startOk i.tok = true := by
  simp [startOk, i.name_ne "'|'", i.name_ne "'O'", i.name_ne "'G'"]

theorem startsAtom_negToks (neg : Bool) (t : Tok) (ts : List Tok) (h : startOk t = true) :
    startsAtom (negToks neg ++ t :: ts) = true := by
  cases neg
  · exact h
  · simp [negToks, startsAtom, startOk]

theorem AtomSyn.startsAtom (a : AtomSyn) : startsAtom a.toks = true := by
  cases a with
  | kinds k more => cases k <;> simp [AtomSyn.toks, KindChar.tok, Query.startsAtom, startOk]
  | tag neg k name => exact startsAtom_negToks neg _ _ (by cases k <;> simp [TagKind.tok, startOk])
  | propExists neg key => exact startsAtom_negToks neg _ _ (startOk_id key)
  | prop neg key op v =>
    rw [AtomSyn.toks, List.append_assoc, List.append_assoc]
    exact startsAtom_negToks neg _ _ (startOk_id key)
  | link neg p =>
    rw [AtomSyn.toks, List.append_assoc, List.append_assoc]
    exact startsAtom_negToks neg _ _ (by simp [startOk])
  | _ => simp [AtomSyn.toks, Query.startsAtom, startOk]

theorem ItemSyn.startsAtom (i : ItemSyn) : startsAtom i.toks = true := by
  cases i with
  | atom a => rw [ItemSyn.toks]; exact a.startsAtom
  | sub f alts => simp [ItemSyn.toks, Query.startsAtom, startOk]

theorem digit19_getD (m : Nat) (h1 : 1 ≤ m) (h9 : m ≤ 9) : digit19.getD (m - 1) "?" ∈ digit19 := by
  rw [List.getD_eq_getElem?_getD, List.getElem?_eq_getElem (by simp [digit19]; omega), Option.getD_some]
  exact List.getElem_mem _

theorem parseAtom_spec (today : Date) (a : AtomSyn) (fuel : Nat) (rest : List Tok)
    (hwf : (ItemSyn.atom a).wf = true) (hf : a.toks.length ≤ fuel) (hr : atomStop rest = true) :
    parseAtom today fuel (a.toks ++ rest) = (a.denote today).map (fun x => (.inl x, rest)) := by
  obtain ⟨f, rfl, -⟩ := exists_fuel (Nat.le_trans (length_pos_of_startsAtom a.startsAtom) hf)
  cases a with
  | kinds k more =>
    have hc : peekIs "COLON" (more.map KindChar.tok ++ rest) = false := by
      cases more with
      | nil => exact atomStop_peekIs hr "COLON"
      | cons k' ks => cases k' <;> simp [peekIs, KindChar.tok]
    have h := kindsRun_spec (k :: more) rest hr
    simp only [AtomSyn.toks, List.cons_append, parseAtom_kind today f k _ hc]
    rw [List.map_cons, List.cons_append] at h
    rw [h]
    rfl
  | prio n =>
    have hn : n ≤ 9 := by simpa [ItemSyn.wf] using hwf
    simp [AtomSyn.toks, AtomSyn.denote, parseAtom_prio today f _ rest (atomStop_peekIs hr "COLON") (atomStop_peekIs hr "DASH"),
      digitVal_digitChar, Nat.mod_eq_of_lt, Nat.lt_succ_of_le hn, Except.map]
  | prioRange n m =>
    have hn : n ≤ 9 ∧ 1 ≤ m ∧ m ≤ 9 := by simpa [ItemSyn.wf, and_assoc] using hwf
    have h := parseAtom_prioRange today f ['P', digitChar n] ⟨digit19.getD (m - 1) "?", [digitChar m]⟩ rest
      (digit19_getD m hn.2.1 hn.2.2)
    simp [digitVal_digitChar, Nat.mod_eq_of_lt, Nat.lt_succ_of_le hn.1, Nat.lt_succ_of_le hn.2.2] at h
    simpa [AtomSyn.toks, AtomSyn.denote, prioritiesOf, Except.map] using h
  | tag neg k name =>
    simp only [AtomSyn.toks, List.append_assoc, List.cons_append, List.nil_append,
      parseAtom_negToks today f neg (parseAtom_tagTok today f k _), parseNegatable_tag]
    rfl
  | created s e =>
    have h : (AtomSyn.created s e).toks = ⟨"CREATE_RANGE_HEAD", '^' :: s⟩ :: tailToks e := rfl
    rw [h, List.cons_append, parseAtom_created, parseDateRange_spec hr, AtomSyn.denote]
    cases rangeOf today s e <;> rfl
  | modified s e =>
    have h : (AtomSyn.modified s e).toks = ⟨"MODIFY_RANGE_HEAD", '$' :: s⟩ :: tailToks e := rfl
    rw [h, List.cons_append, parseAtom_modified, parseDateRange_spec hr, AtomSyn.denote]
    cases rangeOf today s e <;> rfl
  | propExists neg key =>
    have h := parseNegatable_prop f neg key .none (tk "STAR" "*") rest (by simp [isValueTok]) (by simp)
    simp only [AtomSyn.toks, List.append_assoc, List.cons_append, List.nil_append,
      parseAtom_negToks today f neg (parseAtom_idColon today f key _)]
    exact congrArg inlRes h
  | prop neg key op v =>
    have hv : valueOk v.tok.text = true := by simpa [ItemSyn.wf] using hwf
    have h := parseNegatable_prop f neg key op v.tok rest (by simp [isValueTok, v.ok])
      ⟨v.name_ne _, v.name_ne _, v.name_ne _, v.name_ne _⟩
    rw [splitOpValue_op op _ hv] at h
    simp only [AtomSyn.toks, List.append_assoc, List.cons_append, List.nil_append,
      parseAtom_negToks today f neg (parseAtom_idColon today f key _)]
    exact congrArg inlRes h
  | link neg p =>
    have hf' : p.dirs.length + 1 ≤ f := by
      simp [AtomSyn.toks, PathSyn.toks_eq, dirToks_length] at hf
      omega
    simp only [AtomSyn.toks, List.append_assoc, List.cons_append, List.nil_append,
      parseAtom_negToks today f neg (parseAtom_link today f _)]
    exact congrArg inlRes (parseNegatable_link f neg p rest hf')

/-- what `parseAnd` does with the item it read first: an atom joins the atoms, a sub-filter the sub-filters -/
def consItem : (Atom ⊕ OrF) → AndF → AndF
  | .inl x, .mk as ss => .mk (x :: as) ss
  | .inr o, .mk as ss => .mk as (o :: ss)

/-- the denotation of one item in the form in which `parseAtom` returns it -/
def itemDenote (today : Date) : ItemSyn → Except Err (Atom ⊕ OrF)
  | .atom a => (a.denote today).map .inl
  | .sub f alts => (orDenote today (f :: alts)).map .inr

theorem andDenote_cons (today : Date) (i : ItemSyn) (rest : List ItemSyn) :
    andDenote today (i :: rest) = (itemDenote today i).bind (fun x => (andDenote today rest).map (consItem x)) := by
  cases i with
  | atom a =>
    rw [andDenote, itemDenote]
    rcases a.denote today with _ | x <;> rcases andDenote today rest with _ | ⟨as, ss⟩ <;> rfl
  | sub f alts =>
    rw [andDenote, itemDenote]
    rcases orDenote today (f :: alts) with _ | x <;> rcases andDenote today rest with _ | ⟨as, ss⟩ <;> rfl

theorem orDenote_cons (today : Date) (a : List ItemSyn) (rest : List (List ItemSyn)) :
    orDenote today (a :: rest) = (andDenote today a).bind (fun x => (orDenote today rest).map (x :: ·)) := by
  rw [orDenote]
  cases andDenote today a with
  | error e => rfl
  | ok x => cases orDenote today rest <;> rfl

/-- `parseAnd` goes on: a `SPACE` and the start of an atom -/
def andMore : List Tok → Bool
  | s :: n :: _ => s.name == "SPACE" && startOk n
  | _ => false

/-- `parseOr` goes on: `SPACE '|' SPACE` -/
def orMore : List Tok → Bool
  | s :: b :: s2 :: _ => s.name == "SPACE" && b.name == "'|'" && s2.name == "SPACE"
  | _ => false

/-! One round of `parseAnd`, resp. `parseOr`: if the item read first denotes `d` and what is read after it
(nothing, or the rest of the sequence behind the separator) denotes `d2`, the whole denotes their combination. -/

theorem parseAnd_step (today : Date) (fuel : Nat) {toks r1 r2 : List Tok} {d : Except Err (Atom ⊕ OrF)}
    {d2 : Except Err AndF} (h1 : parseAtom today fuel toks = d.map (fun x => (x, r1)))
    (h2 : (if andMore r1 then parseAnd today fuel (r1.drop 1) else .ok (.mk [] [], r1)) = d2.map (fun y => (y, r2))) :
    parseAnd today (fuel + 1) toks = (d.bind fun x => d2.map (consItem x)).map (fun z => (z, r2)) := by
  rw [parseAnd, h1]
  cases d with
  | error e => rfl
  | ok x =>
    -- the model looks ahead by a `match` on the next two tokens; `andMore` is that test
    change (if andMore r1 = true then _ else _) = _
    split at h2
    · rw [if_pos ‹_›, h2]
      cases d2 with
      | error e => rfl
      | ok y => cases y; cases x <;> rfl
    · rw [if_neg ‹_›]
      cases d2 with
      | error e => cases h2
      | ok y => cases h2; cases x <;> rfl

theorem parseOr_step (today : Date) (fuel : Nat) {toks r1 r2 : List Tok} {d : Except Err AndF}
    {d2 : Except Err OrF} (h1 : parseAnd today fuel toks = d.map (fun x => (x, r1)))
    (h2 : (if orMore r1 then parseOr today fuel (r1.drop 3) else .ok ([], r1)) = d2.map (fun y => (y, r2))) :
    parseOr today (fuel + 1) toks = (d.bind fun x => d2.map (x :: ·)).map (fun z => (z, r2)) := by
  rw [parseOr, h1]
  cases d with
  | error e => rfl
  | ok x =>
    rcases r1 with _ | ⟨s, _ | ⟨b, _ | ⟨s2, r⟩⟩⟩
    -- fewer than three tokens are left: `orMore` is false
    iterate 3 (cases d2 <;> cases h2; rfl)
    -- here the model's `match` on the next three tokens is the test `orMore`
    change (if orMore (s :: b :: s2 :: r) = true then _ else _) = _
    split at h2
    · rw [if_pos ‹_›]
      change (parseOr today fuel r).bind _ = _
      rw [show parseOr today fuel r = _ from h2]
      cases d2 <;> rfl
    · rw [if_neg ‹_›]
      cases d2 <;> cases h2
      rfl

/-- remainders at which `parseAnd`, resp. `parseOr`, does not go on -/
def andStop (rest : List Tok) : Prop := atomStop rest = true ∧ andMore rest = false
def orStop (rest : List Tok) : Prop := andStop rest ∧ orMore rest = false

theorem orStop_rparen (rest : List Tok) : orStop (tk "RPAREN" ")" :: rest) := by
  rcases rest with _ | ⟨_, _ | ⟨_, _⟩⟩ <;> simp [orStop, andStop, atomStop, andMore, orMore]

theorem andToks_single (i : ItemSyn) : andToks [i] = i.toks := by simp [andToks]

theorem orToks_single (a : List ItemSyn) : orToks [a] = andToks a := by simp [orToks]

theorem andToks_cons_cons (i i' : ItemSyn) (l : List ItemSyn) :
    andToks (i :: i' :: l) = i.toks ++ sp :: andToks (i' :: l) := by simp [andToks]

theorem orToks_cons_cons (a a' : List ItemSyn) (o : List (List ItemSyn)) :
    orToks (a :: a' :: o) = andToks a ++ sp :: tk "'|'" "|" :: sp :: orToks (a' :: o) := by simp [orToks]

theorem andMore_sp (l : List Tok) : andMore (sp :: l) = startsAtom l := by cases l <;> rfl

theorem andMore_andToks (i : ItemSyn) (l : List ItemSyn) (rest : List Tok) :
    andMore (sp :: (andToks (i :: l) ++ rest)) = true := by
  rw [andMore_sp]
  cases l with
  | nil => rw [andToks_single]; exact startsAtom_append i.startsAtom rest
  | cons i' l => rw [andToks_cons_cons, List.append_assoc]; exact startsAtom_append i.startsAtom _

/-! Fuel that suffices for `parseAtom` on an item, `parseAnd` on a sequence, `parseOr` on a list of alternatives: each call
hands its fuel less one to the calls it makes; an atom gets by with its token count (only a link path recurses, once per
directory). -/

mutual
def ItemSyn.need : ItemSyn → Nat
  | .atom a => a.toks.length
  | .sub f alts => orNeed (f :: alts) + 1
def andNeed : List ItemSyn → Nat
  | [] => 0
  | i :: rest => max i.need (andNeed rest) + 1
def orNeed : List (List ItemSyn) → Nat
  | [] => 0
  | a :: rest => max (andNeed a) (orNeed rest) + 1
end

theorem andWf_ne_nil {l : List ItemSyn} (h : andWf l = true) : l ≠ [] := fun e => by subst e; cases h

theorem parse_filter (today : Date) :
    (∀ (i : ItemSyn) (fuel : Nat) (rest : List Tok), i.wf = true → i.need ≤ fuel → atomStop rest = true →
      parseAtom today fuel (i.toks ++ rest) = (itemDenote today i).map (fun x => (x, rest))) ∧
    (∀ (o : List (List ItemSyn)) (fuel : Nat) (rest : List Tok), o ≠ [] → orWf o = true → orNeed o ≤ fuel →
      orStop rest →
      parseOr today fuel (orToks o ++ rest) = (orDenote today o).map (fun x => (x, rest))) ∧
    (∀ (l : List ItemSyn) (fuel : Nat) (rest : List Tok), andWf l = true → andNeed l ≤ fuel → andStop rest →
      parseAnd today fuel (andToks l ++ rest) = (andDenote today l).map (fun x => (x, rest))) := by
  -- the cases: an atom, a sub-filter; no alternative, one more alternative; no item, one more item
  apply ItemSyn.need.mutual_induct
  · intro a fuel rest hwf hn hr
    rw [ItemSyn.toks, itemDenote, parseAtom_spec today a fuel rest hwf (by rwa [ItemSyn.need] at hn) hr]
    cases a.denote today <;> rfl
  · intro fi alts ih fuel rest hwf hn hr
    rw [ItemSyn.need] at hn
    obtain ⟨f, rfl, hf⟩ := exists_fuel hn
    rw [ItemSyn.toks, List.append_assoc, List.append_assoc, List.singleton_append, List.singleton_append,
      parseAtom_lparen, ih f _ (List.cons_ne_nil _ _) hwf hf (orStop_rparen rest), itemDenote]
    cases orDenote today (fi :: alts) <;> simp [Except.map, Except.bind, expect]
  · intro fuel rest h
    exact absurd rfl h
  · intro a o iha iho fuel rest _ hwf hn hr
    rw [orNeed] at hn
    obtain ⟨f, rfl, hf⟩ := exists_fuel hn
    rw [Nat.max_le] at hf
    rw [orWf, Bool.and_eq_true] at hwf
    rw [orDenote_cons]
    cases o with
    | nil =>
      rw [orToks_single]
      exact parseOr_step today f (iha f rest hwf.1 hf.1 hr.1) (by rw [hr.2, orDenote]; rfl)
    | cons a' o' =>
      rw [orToks_cons_cons, List.append_assoc]
      exact parseOr_step today f (iha f _ hwf.1 hf.1 ⟨rfl, rfl⟩)
        (iho f rest (List.cons_ne_nil _ _) hwf.2 hf.2 hr)
  · intro fuel rest h
    cases h
  · intro i l ihi ihl fuel rest hwf hn hr
    rw [andNeed] at hn
    obtain ⟨f, rfl, hf⟩ := exists_fuel hn
    rw [Nat.max_le] at hf
    rw [andDenote_cons]
    cases l with
    | nil =>
      rw [andToks_single]
      exact parseAnd_step today f (ihi f rest hwf hf.1 hr.1) (by rw [hr.2, andDenote]; rfl)
    | cons i' l' =>
      have hwf : i.wf = true ∧ andWf (i' :: l') = true := by simpa [andWf] using hwf
      rw [andToks_cons_cons, List.append_assoc]
      exact parseAnd_step today f (ihi f _ hwf.1 hf.1 rfl)
        (by rw [List.cons_append, andMore_andToks]; exact ihl f rest hwf.2 hf.2 hr)

mutual
def ItemSyn.depth : ItemSyn → Nat
  | .atom _ => 0
  | .sub f alts => orDepth (f :: alts) + 1
def andDepth : List ItemSyn → Nat
  | [] => 0
  | i :: rest => max i.depth (andDepth rest)
def orDepth : List (List ItemSyn) → Nat
  | [] => 0
  | a :: rest => max (andDepth a) (orDepth rest)
end

/-- the arithmetic of one more element in a sequence: `l₂`, `d₂`, `n₂` are length, depth and need of what
follows the first element (separator included) -/
theorem need_step {n₁ n₂ l₁ l₂ d₁ d₂ : Nat} (c : Nat) (h₁ : n₁ ≤ l₁ + d₁ + c ∧ d₁ ≤ l₁)
    (h₂ : n₂ ≤ l₂ + d₂ + c ∧ d₂ ≤ l₂) :
    max n₁ n₂ + 1 ≤ l₁ + l₂ + max d₁ d₂ + c + 1 ∧ max d₁ d₂ ≤ l₁ + l₂ :=
  ⟨Nat.succ_le_succ (Nat.max_le.2
    ⟨Nat.le_trans h₁.1 (Nat.add_le_add_right (Nat.add_le_add (Nat.le_add_right ..) (Nat.le_max_left ..)) c),
     Nat.le_trans h₂.1 (Nat.add_le_add_right (Nat.add_le_add (Nat.le_add_left ..) (Nat.le_max_right ..)) c)⟩),
   Nat.max_le.2 ⟨Nat.le_trans h₁.2 (Nat.le_add_right ..), Nat.le_trans h₂.2 (Nat.le_add_left ..)⟩⟩

/-- each parenthesis level costs three units of fuel (`parseAtom`, `parseOr`, `parseAnd`) and two tokens -/
theorem need_le_depth :
    (∀ i : ItemSyn, i.need ≤ i.toks.length + i.depth ∧ i.depth < i.toks.length) ∧
    (∀ o : List (List ItemSyn),
      orNeed o ≤ (orToks o).length + orDepth o + 2 ∧ orDepth o ≤ (orToks o).length) ∧
    (∀ l : List ItemSyn,
      andNeed l ≤ (andToks l).length + andDepth l + 1 ∧ andDepth l ≤ (andToks l).length) := by
  -- the cases as in `parse_filter`
  apply ItemSyn.need.mutual_induct
  · intro a
    rw [ItemSyn.need, ItemSyn.depth, ItemSyn.toks]
    exact ⟨Nat.le_refl _, length_pos_of_startsAtom a.startsAtom⟩
  · intro f alts ih
    simp only [ItemSyn.need, ItemSyn.toks, ItemSyn.depth, List.length_append, List.length_cons, List.length_nil]
    omega
  · simp [orNeed, orDepth]
  · intro a o iha iho
    rw [orNeed, orDepth]
    cases o with
    | nil =>
      rw [orToks_single, orNeed, orDepth]
      exact need_step (l₂ := 0) 1 iha ⟨Nat.zero_le _, Nat.zero_le _⟩
    | cons a' o' =>
      rw [orToks_cons_cons, List.length_append]
      exact need_step 1 iha ⟨by simp only [List.length_cons]; omega, by simp only [List.length_cons]; omega⟩
  · simp [andNeed, andDepth]
  · intro i l ihi ihl
    rw [andNeed, andDepth]
    cases l with
    | nil =>
      rw [andToks_single, andNeed, andDepth]
      exact need_step (l₂ := 0) 0 ⟨ihi.1, Nat.le_of_lt ihi.2⟩ ⟨Nat.zero_le _, Nat.zero_le _⟩
    | cons i' l' =>
      rw [andToks_cons_cons, List.length_append]
      exact need_step 0 ⟨ihi.1, Nat.le_of_lt ihi.2⟩
        ⟨by simp only [List.length_cons]; omega, by simp only [List.length_cons]; omega⟩

theorem orNeed_le_depth (o : List (List ItemSyn)) : orNeed o ≤ (orToks o).length + orDepth o + 2 :=
  (need_le_depth.2.1 o).1

theorem selectFieldOf_spec (f : SelFieldSyn) (rest : List Tok) (hr : peekIs "COLON" rest = false) :
    selectFieldOf (f.toks ++ rest) = .ok (f.denote, rest) := by
  cases f with
  | prop =>
    simp [SelFieldSyn.toks, selectFieldOf, SelFieldSyn.denote]
    split
    · simp_all [peekIs]
    · rfl
  | propValues k => simp [SelFieldSyn.toks, selectFieldOf, SelFieldSyn.denote, k.ok]
  | _ => simp [SelFieldSyn.toks, selectFieldOf, SelFieldSyn.denote]

def selBody (s : SelSyn) : List Tok :=
  if s.count then [tk "'count'" "count", tk "LPAREN" "("] ++ s.field.toks ++ [tk "RPAREN" ")"] else s.field.toks

theorem SelSyn.toks_eq (s : SelSyn) : s.toks = tk "'S'" "S" :: sp :: selBody s := rfl

theorem parseSelectBody_noCount (toks : List Tok) (h : peekIs "'count'" toks = false) :
    parseSelectBody toks = (selectFieldOf toks).map (fun (f, r) => (.field f, r)) := by
  match toks, h with
  | [], _ => rfl
  | [t], _ => rfl
  | t :: l :: r, h =>
    simp [peekIs] at h
    simp [parseSelectBody, h]

theorem parseSelectBody_spec (s : SelSyn) (rest : List Tok) (hr : peekIs "COLON" rest = false) :
    parseSelectBody (selBody s ++ rest) = .ok (s.denote, rest) := by
  obtain ⟨c, f⟩ := s
  cases c with
  | true =>
    have h := selectFieldOf_spec f (tk "RPAREN" ")" :: rest) rfl
    simp [selBody, parseSelectBody, SelSyn.denote, h, expect]
  | false =>
    have hn : peekIs "'count'" (f.toks ++ rest) = false := by cases f <;> rfl
    simp [selBody, SelSyn.denote, parseSelectBody_noCount _ hn, selectFieldOf_spec f rest hr,
      Except.map]

def orderToks (o : OrderBy) (more : List OrderBy) : List Tok :=
  interleave [sp] ((o :: more).map (fun x => [x.tok]))

def groupToks (g : Option GroupBy) (more : List (Option GroupBy)) : List Tok :=
  interleave [sp] ((g :: more).map (fun x => [groupTok x]))

theorem interleave_singletons {α : Type} (s : Tok) (f : α → Tok) (x : α) (xs : List α) :
    interleave [s] ((x :: xs).map (fun y => [f y])) = f x :: xs.flatMap (fun y => [s, f y]) := by
  induction xs generalizing x with
  | nil => rfl
  | cons y ys ih => simp [interleave, ← ih]

theorem orderAtom_tok (o : OrderBy) : orderAtom o.tok = some o := by cases o <;> rfl
theorem groupAtom_tok (g : Option GroupBy) : groupAtom (groupTok g) = some g := by
  cases g with
  | none => rfl
  | some x => cases x <;> rfl

/-- `orderBody`, resp. `groupBody`, goes on: a `SPACE` and another atom -/
def orderMore : List Tok → Bool
  | s :: n :: _ => s.name == "SPACE" && (orderAtom n).isSome
  | _ => false

def groupMore : List Tok → Bool
  | s :: m :: _ => s.name == "SPACE" && (groupAtom m).isSome
  | _ => false

theorem orderBody_cons (fuel : Nat) {t : Tok} (rest : List Tok) {o : OrderBy} (h : orderAtom t = some o) :
    orderBody (fuel + 1) (t :: rest) =
      if orderMore rest then (orderBody fuel (rest.drop 1)).map (fun p => (o :: p.1, p.2)) else .ok ([o], rest) := by
  rw [orderBody]
  simp only [h]
  rcases rest with _ | ⟨_, _ | ⟨_, _⟩⟩ <;> rfl

theorem groupBody_cons (n : Nat) {t : Tok} (rest : List Tok) {g : Option GroupBy} (h : groupAtom t = some g) :
    groupBody (n + 1) (t :: rest) =
      if groupMore rest && decide (n > 0) then (groupBody n (rest.drop 1)).map (fun p => (g.toList ++ p.1, p.2))
      else .ok (g.toList, rest) := by
  rw [groupBody]
  simp only [h]
  rcases rest with _ | ⟨_, _ | ⟨_, _⟩⟩ <;> cases g <;> rfl

theorem orderBody_spec {rest : List Tok} (hr : orderMore rest = false) (o : OrderBy) (more : List OrderBy)
    (fuel : Nat) (hf : more.length + 1 ≤ fuel) :
    orderBody fuel (orderToks o more ++ rest) = .ok (o :: more, rest) := by
  simp only [orderToks, interleave_singletons, List.cons_append]
  induction more generalizing o fuel with
  | nil =>
    obtain ⟨f, rfl, -⟩ := exists_fuel hf
    rw [List.flatMap_nil, List.nil_append, orderBody_cons _ _ (orderAtom_tok o), hr]
    rfl
  | cons o' more ih =>
    obtain ⟨f, rfl, hf'⟩ := exists_fuel hf
    rw [orderBody_cons _ _ (orderAtom_tok o), List.flatMap_cons, List.cons_append, List.cons_append,
      if_pos (by simp [orderMore, orderAtom_tok])]
    exact congrArg (Except.map _) (ih o' f hf')

theorem groupBody_spec {rest : List Tok} (hr : groupMore rest = false) (g : Option GroupBy)
    (more : List (Option GroupBy)) (n : Nat) (hf : more.length + 1 ≤ n) :
    groupBody n (groupToks g more ++ rest) = .ok ((g :: more).filterMap id, rest) := by
  simp only [groupToks, interleave_singletons, List.cons_append]
  induction more generalizing g n with
  | nil =>
    obtain ⟨f, rfl, -⟩ := exists_fuel hf
    rw [List.flatMap_nil, List.nil_append, groupBody_cons _ _ (groupAtom_tok g), hr]
    cases g <;> rfl
  | cons g' more ih =>
    obtain ⟨f, rfl, hf'⟩ := exists_fuel hf
    rw [groupBody_cons _ _ (groupAtom_tok g), List.flatMap_cons, List.cons_append, List.cons_append,
      if_pos (by simpa [groupMore, groupAtom_tok] using Nat.lt_of_lt_of_le (Nat.succ_pos _) hf')]
    refine (congrArg (Except.map _) (ih g' f hf')).trans ?_
    cases g <;> rfl

def oClause : Option (OrderBy × List OrderBy) → List Tok
  | some (o, more) => sp :: tk "'O'" "O" :: sp :: orderToks o more
  | none => []

def gClause : Option (Option GroupBy × List (Option GroupBy)) → List Tok
  | some (g, more) => sp :: tk "'G'" "G" :: sp :: groupToks g more
  | none => []

/-- after a clause body: nothing, or a separator followed by the other clause keyword -/
def clauseStop : List Tok → Bool
  | [] => true
  | [_] => true
  | _ :: k :: _ => k.name == "'O'" || k.name == "'G'"

theorem clauseStop_oClause (order) : clauseStop (oClause order) = true := by cases order <;> rfl
theorem clauseStop_gClause (group) : clauseStop (gClause group) = true := by cases group <;> rfl

def ogToks (order : Option (OrderBy × List OrderBy)) (group : Option (Option GroupBy × List (Option GroupBy)))
    (groupFirst : Bool) : List Tok :=
  if groupFirst then gClause group ++ oClause order else oClause order ++ gClause group

/-- the fuel `orderBody` needs for the clause -/
def orderLen : Option (OrderBy × List OrderBy) → Nat
  | some (_, more) => more.length + 1
  | none => 0

/-- `groupBody` reads at most four atoms (the last conjunct of `QSyn.wf`) -/
def groupOk : Option (Option GroupBy × List (Option GroupBy)) → Bool
  | some (_, more) => decide (more.length ≤ 3)
  | none => true

theorem orderAndGroup_spec (fuel : Nat) (order : Option (OrderBy × List OrderBy))
    (group : Option (Option GroupBy × List (Option GroupBy))) (gf : Bool)
    (hf : orderLen order ≤ fuel) (hg : groupOk group = true) :
    orderAndGroup fuel (ogToks order group gf) =
      .ok ((order.map (fun p => p.1 :: p.2), group.map (fun p => (p.1 :: p.2).filterMap id)), []) := by
  rcases order with _ | ⟨o, om⟩ <;> rcases group with _ | ⟨g, gm⟩
  · cases gf <;> rfl
  · have hb := groupBody_spec (rest := []) rfl g gm 4 (Nat.succ_le_succ (of_decide_eq_true hg))
    rw [List.append_nil] at hb
    cases gf <;> simp [ogToks, oClause, gClause, orderAndGroup, hb, bind, Except.bind, pure, Except.pure]
  · have hb := orderBody_spec (rest := []) rfl o om fuel hf
    rw [List.append_nil] at hb
    cases gf <;> simp [ogToks, oClause, gClause, orderAndGroup, hb, bind, Except.bind, pure, Except.pure]
  · have h4 : gm.length + 1 ≤ 4 := Nat.succ_le_succ (of_decide_eq_true hg)
    have hg0 := groupBody_spec (rest := []) rfl g gm 4 h4
    have ho0 := orderBody_spec (rest := []) rfl o om fuel hf
    have hg1 := groupBody_spec (rest := oClause (some (o, om))) rfl g gm 4 h4
    have ho1 := orderBody_spec (rest := gClause (some (g, gm))) rfl o om fuel hf
    rw [List.append_nil] at hg0 ho0
    rw [oClause] at hg1
    rw [gClause] at ho1
    cases gf
    · simp [ogToks, oClause, gClause, orderAndGroup, ho1, hg0, bind, Except.bind, pure, Except.pure]
    · simp [ogToks, oClause, gClause, orderAndGroup, ho0, hg1, bind, Except.bind, pure, Except.pure]

def selToks : Option SelSyn → List Tok
  | some s => s.toks
  | none => []

def whToks (hasSel : Bool) : Option (List ItemSyn × List (List ItemSyn)) → List Tok
  | some (f, alts) => (if hasSel then [sp] else []) ++ [tk "'W'" "W", sp] ++ orToks (f :: alts)
  | none => []

theorem QSyn.toks_eq (q : QSyn) :
    q.toks = selToks q.sel ++ (whToks q.sel.isSome q.where_ ++ ogToks q.order q.group q.groupFirst) := by
  rw [← List.append_assoc]
  rfl

/-! `parseToks` runs its parsers on `3 * token count + 4` units of fuel: enough for the ORDER BY clause and for the filter. -/

theorem orderLen_le (order : Option (OrderBy × List OrderBy)) (group : Option (Option GroupBy × List (Option GroupBy))) (gf : Bool) :
    orderLen order ≤ (ogToks order group gf).length := by
  rcases order with _ | ⟨o, more⟩
  · exact Nat.zero_le _
  · cases gf <;> simp only [orderLen, ogToks, oClause, orderToks, interleave_singletons] <;>
      simp [List.length_flatMap, List.map_const', List.sum_replicate_nat] <;> omega

theorem QSyn.fuel_le (q : QSyn) (f : List ItemSyn) (alts : List (List ItemSyn)) (h : q.where_ = some (f, alts)) :
    orNeed (f :: alts) ≤ 3 * q.toks.length + 4 := by
  have hb := need_le_depth.2.1 (f :: alts)
  have hl : (orToks (f :: alts)).length ≤ q.toks.length := by
    rw [q.toks_eq, h, whToks]
    simp only [List.length_append]
    omega
  omega

theorem orStop_ogToks (order : Option (OrderBy × List OrderBy)) (group : Option (Option GroupBy × List (Option GroupBy))) (gf : Bool) :
    orStop (ogToks order group gf) := by
  rcases order with _ | ⟨o, om⟩ <;> rcases group with _ | ⟨g, gm⟩ <;> cases gf <;>
    simp [orStop, andStop, atomStop, andMore, startOk, orMore, ogToks, oClause, gClause]

theorem peekIs_colon_whToks (wh : Option (List ItemSyn × List (List ItemSyn))) (order : Option (OrderBy × List OrderBy))
    (group : Option (Option GroupBy × List (Option GroupBy))) (gf : Bool) :
    peekIs "COLON" (whToks true wh ++ ogToks order group gf) = false := by
  cases wh with
  | some p => rfl
  | none => cases order <;> cases group <;> cases gf <;> rfl

/-- the last phase of `parseToks`: nothing but an `NL` may be left, and absent clauses take the defaults -/
def finishPart (dflt : Defaults) (sel : Option Select) (wh : Option OrF) :
    (Option (List OrderBy) × Option (List GroupBy)) × List Tok → Except Err Query
  | ((ob, gb), r2) =>
    let r3 := match r2 with | [t] => if t.name == "NL" then [] else r2 | _ => r2
    if !r3.isEmpty then .error (.syntax "trailing tokens")
    else pure ⟨sel.getD dflt.select, wh, ob.getD dflt.orderBy, gb.getD dflt.groupBy⟩

/-- the last two fields of `QSyn.denote` -/
def orderRes (dflt : Defaults) : Option (OrderBy × List OrderBy) → List OrderBy
  | some (o, more) => o :: more
  | none => dflt.orderBy

def groupRes (dflt : Defaults) : Option (Option GroupBy × List (Option GroupBy)) → List GroupBy
  | some (g, more) => (g :: more).filterMap id
  | none => dflt.groupBy

theorem finish_ok (dflt : Defaults) (F : Nat) (sel : Option Select) (wh : Option OrF) (order : Option (OrderBy × List OrderBy))
    (group : Option (Option GroupBy × List (Option GroupBy))) (gf : Bool)
    (hf : orderLen order ≤ F) (hg : groupOk group = true) :
    (orderAndGroup F (ogToks order group gf)).bind (finishPart dflt sel wh) =
      .ok ⟨sel.getD dflt.select, wh, orderRes dflt order, groupRes dflt group⟩ := by
  rw [orderAndGroup_spec F order group gf hf hg]
  cases order <;> cases group <;> rfl

theorem where_denotes (dflt : Defaults) (today : Date) (F : Nat) (sel : Option SelSyn) (f : List ItemSyn)
    (alts : List (List ItemSyn)) (order : Option (OrderBy × List OrderBy))
    (group : Option (Option GroupBy × List (Option GroupBy))) (gf : Bool) (hw : orWf (f :: alts) = true)
    (hF : orNeed (f :: alts) ≤ F) (hf : orderLen order ≤ F) (hg : groupOk group = true) :
    (parseOr today F (orToks (f :: alts) ++ ogToks order group gf)).bind
        (fun (o, r1) => (orderAndGroup F r1).bind (finishPart dflt (sel.map SelSyn.denote) (some o))) =
      (QSyn.mk sel (some (f, alts)) order group gf).denote dflt today := by
  rw [(parse_filter today).2.1 (f :: alts) F _ (List.cons_ne_nil _ _) hw hF (orStop_ogToks order group gf)]
  simp only [QSyn.denote]
  cases orDenote today (f :: alts) with
  | error e => rfl
  | ok x => exact finish_ok dflt F _ (some x) order group gf hf hg

/-! `parseToks` on the three shapes of a query (`C04_denotes` puts them together).  The fuel is a variable `F` with an
equation, so that unfolding `parseToks` does not compute with the token count. -/

theorem parseToks_W (dflt : Defaults) (today : Date) {rest : List Tok} {F : Nat}
    (hF : F = 3 * (tk "'W'" "W" :: sp :: rest).length + 4) :
    parseToks dflt today (tk "'W'" "W" :: sp :: rest) =
      (parseOr today F rest).bind (fun (o, r1) => (orderAndGroup F r1).bind (finishPart dflt none (some o))) := by
  subst hF
  rfl

theorem parseToks_SW (dflt : Defaults) (today : Date) {body rest : List Tok} {x : Select} {F : Nat}
    (hF : F = 3 * (tk "'S'" "S" :: sp :: body).length + 4)
    (hb : parseSelectBody body = .ok (x, sp :: tk "'W'" "W" :: sp :: rest)) :
    parseToks dflt today (tk "'S'" "S" :: sp :: body) =
      (parseOr today F rest).bind (fun (o, r1) => (orderAndGroup F r1).bind (finishPart dflt (some x) (some o))) := by
  subst hF
  show (parseSelectBody body).bind _ = _
  rw [hb]
  rfl

/-- `hr` excludes a remainder that begins `SPACE 'W' SPACE`, at which `parseToks` would go on to a filter -/
theorem parseToks_S (dflt : Defaults) (today : Date) {body r0 : List Tok} {x : Select} {F : Nat}
    (hF : F = 3 * (tk "'S'" "S" :: sp :: body).length + 4)
    (hb : parseSelectBody body = .ok (x, r0)) (hr : andMore r0 = false) :
    parseToks dflt today (tk "'S'" "S" :: sp :: body) = (orderAndGroup F r0).bind (finishPart dflt (some x) none) := by
  subst hF
  show (parseSelectBody body).bind _ = _
  rw [hb]
  rcases r0 with _ | ⟨a, _ | ⟨b, _ | ⟨c, r⟩⟩⟩
  · rfl
  · rfl
  · rfl
  · -- `SPACE 'W'` would make `parseAnd` go on
    have hc : ¬(a.name == "SPACE" && b.name == "'W'" && c.name == "SPACE") = true := by
      intro hc
      simp only [Bool.and_eq_true, beq_iff_eq] at hc
      simp [andMore, startOk, hc.1.1, hc.1.2] at hr
    show (if _ then _ else _) = _
    rw [if_neg hc]
    rfl

end ZorgVerif.Query

#print axioms ZorgVerif.Query.parse_filter
