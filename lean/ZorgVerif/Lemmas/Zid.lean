import ZorgVerif.Lemmas.Basic
import ZorgVerif.Model.Zid
import ZorgVerif.Gen.Consts
/-! Odometer lemmas for `_get_next_id`, generic in the alphabet; instantiated with the generated
exclusion list by `decide +kernel` over the 51-character alphabet (a finite table, not a sample). -/
namespace ZorgVerif.Zid
open ZorgVerif

/-- the ZID alphabet: `[0-9A-Za-z]` minus the exclusion list, in code-point order -/
def alphabet (excl : List Char) : List Char :=
  ((List.range 128).map Char.ofNat).filter (fun c => c.isAlphanum && !excl.contains c)

abbrev E := Gen.unsupportedZidChars
abbrev A := alphabet E

/-- An alphabet/exclusion pair on which the successor function walks the alphabet in order: each letter goes to
the next one, the last to nothing. -/
structure Odometer (excl al : List Char) : Prop where
  nodup : al.Nodup
  zero : al.head? = some '0'
  step : ∀ i < al.length, al[i]?.bind (succChar excl) = al[i + 1]?

/-- the alphabet is cut out of the code points in increasing order -/
theorem alphabet_nodup (excl : List Char) : (alphabet excl).Nodup := by
  refine List.Pairwise.filter _ (List.pairwise_map.mpr ?_)
  refine List.pairwise_lt_range.imp_of_mem fun {a b} ha hb hab he => ?_
  have := congrArg Char.toNat he
  rw [List.mem_range] at ha hb
  rw [Char.toNat_ofNat (.inl (by omega)), Char.toNat_ofNat (.inl (by omega))] at this
  omega

/-- What the proofs need to know of the generated alphabet, in one evaluation: the kernel builds `A` once. -/
theorem A_table : A.length = 51 ∧ A.head? = some '0' ∧ A.getLast? = some 'z' ∧
    ∀ i < A.length, A[i]?.bind (succChar E) = A[i + 1]? := by decide +kernel

theorem odometerE : Odometer E A := ⟨alphabet_nodup E, A_table.2.1, A_table.2.2.2⟩

theorem A_length : A.length = 51 := A_table.1

def Valid (al : List Char) (s : List Char) : Prop := ∀ c ∈ s, c ∈ al

instance (al s : List Char) : Decidable (Valid al s) := by unfold Valid; infer_instance

/-- little-endian value of a (reversed) id in base `|al|` -/
def rankRev (al : List Char) : List Char → Nat
  | [] => 0
  | c :: rest => al.idxOf c + al.length * rankRev al rest

theorem rankRev_lt {al : List Char} : ∀ {r : List Char}, Valid al r → rankRev al r < al.length ^ r.length
  | [], _ => by simp [rankRev]
  | c :: r, h => by
    obtain ⟨hc, hr⟩ := List.forall_mem_cons.mp h
    have hc := List.idxOf_lt_length_of_mem hc
    have := Nat.mul_le_mul_left al.length (rankRev_lt hr)
    rw [rankRev, List.length_cons, Nat.pow_succ, Nat.mul_comm (al.length ^ r.length)]
    rw [Nat.mul_succ] at this
    omega

theorem idxOf_inj {al : List Char} {a b : Char} (ha : a ∈ al) (hb : b ∈ al) (h : al.idxOf a = al.idxOf b) : a = b := by
  have h1 := List.getElem_idxOf (List.idxOf_lt_length_of_mem ha)
  have h2 := List.getElem_idxOf (List.idxOf_lt_length_of_mem hb)
  rw [← h1, ← h2]; simp [h]

theorem digit_inj {n a b x y : Nat} (ha : a < n) (hb : b < n) (h : a + n * x = b + n * y) : a = b ∧ x = y := by
  have hm := congrArg (· % n) h
  have hd := congrArg (· / n) h
  simp only [Nat.add_mul_mod_self_left, Nat.mod_eq_of_lt ha, Nat.mod_eq_of_lt hb,
    Nat.add_mul_div_left _ _ (Nat.zero_lt_of_lt ha), Nat.div_eq_of_lt ha, Nat.div_eq_of_lt hb, Nat.zero_add] at hm hd
  exact ⟨hm, hd⟩

theorem rankRev_inj {al : List Char} : ∀ {r s : List Char}, Valid al r → Valid al s → r.length = s.length →
    rankRev al r = rankRev al s → r = s
  | [], [], _, _, _, _ => rfl
  | [], _ :: _, _, _, hl, _ | _ :: _, [], _, _, hl, _ => by simp at hl
  | c :: r, d :: s, hr, hs, hl, he => by
    obtain ⟨hc, hr⟩ := List.forall_mem_cons.mp hr
    obtain ⟨hd, hs⟩ := List.forall_mem_cons.mp hs
    obtain ⟨h1, h2⟩ := digit_inj (List.idxOf_lt_length_of_mem hc) (List.idxOf_lt_length_of_mem hd) he
    rw [idxOf_inj hc hd h1, rankRev_inj hr hs (by simpa using hl) h2]

section
variable {excl al : List Char} (o : Odometer excl al)
include o

theorem zero_mem : '0' ∈ al := List.mem_of_head? o.zero

theorem idxOf_zero : al.idxOf '0' = 0 := by
  obtain ⟨t, rfl⟩ := List.head?_eq_some_iff.mp o.zero
  exact List.idxOf_cons_self

theorem succChar_eq {c : Char} (hc : c ∈ al) : succChar excl c = al[al.idxOf c + 1]? := by
  have hi := List.idxOf_lt_length_of_mem hc
  simpa [List.getElem?_eq_getElem hi] using o.step _ hi

theorem succ_some {c c' : Char} (hc : c ∈ al) (h : succChar excl c = some c') :
    c' ∈ al ∧ al.idxOf c' = al.idxOf c + 1 := by
  rw [succChar_eq o hc] at h
  obtain ⟨hlt, rfl⟩ := List.getElem?_eq_some_iff.mp h
  exact ⟨List.getElem_mem hlt, o.nodup.idxOf_getElem _ hlt⟩

theorem succ_none {c : Char} (hc : c ∈ al) (h : succChar excl c = none) : al.idxOf c + 1 = al.length := by
  rw [succChar_eq o hc, List.getElem?_eq_none_iff] at h
  have := List.idxOf_lt_length_of_mem hc
  omega

/-- the odometer step: bumping a valid reversed id adds one to its value, keeps its length and its
validity; it fails exactly on the all-maximal id. -/
theorem bumpRev_spec : ∀ r : List Char, Valid al r →
    match bumpRev excl r with
    | some r' => r'.length = r.length ∧ Valid al r' ∧ rankRev al r' = rankRev al r + 1
    | none => rankRev al r + 1 = al.length ^ r.length
  | [], _ => by simp [bumpRev, rankRev]
  | c :: rest, hv => by
    obtain ⟨hc, hrest⟩ := List.forall_mem_cons.mp hv
    rw [bumpRev]
    cases hs : succChar excl c with
    | some c' =>
      obtain ⟨hm, hi⟩ := succ_some o hc hs
      exact ⟨rfl, List.forall_mem_cons.mpr ⟨hm, hrest⟩, by simp only [rankRev, hi]; omega⟩
    | none =>
      -- carry: `c` is the last letter, `'0'` (of index 0) takes its place and the rest is bumped
      have hl := succ_none o hc hs
      match bumpRev excl rest, bumpRev_spec rest hrest with
      | some q, ⟨hq, hv', hr⟩ =>
        exact ⟨congrArg (· + 1) hq, List.forall_mem_cons.mpr ⟨zero_mem o, hv'⟩,
          by simp only [rankRev, idxOf_zero o, hr, Nat.mul_add]; omega⟩
      | none, ih =>
        simp only [Option.map_none, rankRev, List.length_cons, Nat.pow_succ]
        rw [← ih, Nat.add_mul, Nat.mul_comm]
        omega

end

end ZorgVerif.Zid
