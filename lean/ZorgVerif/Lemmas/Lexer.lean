import ZorgVerif.Model.Lexer
/-! Lemmas about the lexer model: soundness of the set-wise runs, when `longest` is the whole string, and
`lex` on a string that is exactly one token. -/
namespace ZorgVerif.Lex
open ZorgVerif

theorem accepts_iff {d : Dfa} {s : Str} :
    d.accepts s = true ↔ ∃ q', d.runFrom d.start s = some q' ∧ d.acc.contains q' = true := by
  unfold Dfa.accepts
  cases d.runFrom d.start s <;> simp

theorem stepAll_mem {d : Dfa} {qs qs' : List Nat} {S : List Char} (h : stepAll d qs S = some qs')
    {q : Nat} (hq : q ∈ qs) {c : Char} (hc : c ∈ S) : ∃ q', d.step q c = some q' ∧ q' ∈ qs' := by
  have hm : d.step q c ∈ qs.flatMap fun q => S.map fun c => d.step q c :=
    List.mem_flatMap.mpr ⟨q, hq, List.mem_map_of_mem hc⟩
  unfold stepAll at h
  generalize qs.flatMap _ = os, d.step q c = o at h hm
  induction os generalizing qs' with
  | nil => cases hm
  | cons o' os ih =>
    rw [List.foldr_cons] at h
    split at h
    · next q' l hl =>
      cases h
      -- what the fold does with a live successor is `List.insert`
      change ∃ q1, o = some q1 ∧ q1 ∈ l.insert q'
      simp only [List.mem_insert_iff]
      rcases List.mem_cons.mp hm with rfl | hm
      · exact ⟨q', rfl, .inl rfl⟩
      · obtain ⟨q1, rfl, h1⟩ := ih hl hm
        exact ⟨q1, rfl, .inr h1⟩
    · cases h

theorem stepLive_mem {d : Dfa} {qs : List Nat} {S : List Char} {q : Nat} (hq : q ∈ qs) {c : Char} (hc : c ∈ S)
    {q' : Nat} (hs : d.step q c = some q') : q' ∈ stepLive d qs S :=
  List.mem_eraseDups.mpr (List.mem_flatMap.mpr ⟨q, hq, List.mem_filterMap.mpr ⟨c, hc, hs⟩⟩)

theorem allAccepted_go_sound (d : Dfa) {s : Str} {sets : List (List Char)} (hs : InProduct s sets) {qs : List Nat}
    (h : allAccepted.go d qs sets = true) {q : Nat} (hq : q ∈ qs) :
    ∃ q', d.runFrom q s = some q' ∧ d.acc.contains q' = true := by
  fun_induction InProduct s sets generalizing qs q with
  | case1 => exact ⟨q, rfl, List.all_eq_true.mp h q hq⟩
  | case2 c cs S rest ih =>
    rw [allAccepted.go] at h
    split at h
    · next qs' hst =>
      obtain ⟨q1, hq1, hm⟩ := stepAll_mem hst hq hs.1
      simpa only [Dfa.runFrom, hq1] using ih hs.2 h hm
    · cases h
  | case3 => exact hs.elim

theorem allAccepted_sound (d : Dfa) (sets : List (List Char)) (s : Str)
    (h : allAccepted d sets = true) (hs : InProduct s sets) : d.accepts s = true :=
  accepts_iff.mpr (allAccepted_go_sound d hs h List.mem_cons_self)

theorem noneAccepted_go_sound (d : Dfa) {s : Str} {sets : List (List Char)} (hs : InProduct s sets) {qs : List Nat}
    (h : noneAccepted.go d qs sets = true) {q : Nat} (hq : q ∈ qs) {q' : Nat} (hr : d.runFrom q s = some q') :
    d.acc.contains q' = false := by
  fun_induction InProduct s sets generalizing qs q with
  | case1 => cases hr; simpa using List.all_eq_true.mp h _ hq
  | case2 c cs S rest ih =>
    rw [Dfa.runFrom] at hr
    split at hr
    · next q1 hq1 => exact ih hs.2 h (stepLive_mem hq hs.1 hq1) hr
    · cases hr
  | case3 => exact hs.elim

theorem noneAccepted_sound (d : Dfa) (sets : List (List Char)) (s : Str)
    (h : noneAccepted d sets = true) (hs : InProduct s sets) : d.accepts s = false :=
  Bool.eq_false_iff.mpr fun ha => by
    obtain ⟨q', hr, ha⟩ := accepts_iff.mp ha
    rw [noneAccepted_go_sound d hs h List.mem_cons_self hr] at ha
    cases ha

theorem InProduct.append {s s' : Str} {sets sets' : List (List Char)} (h : InProduct s sets) (h' : InProduct s' sets') :
    InProduct (s ++ s') (sets ++ sets') := by
  fun_induction InProduct s sets with
  | case1 => exact h'
  | case2 c cs S rest ih => exact ⟨h.1, ih h.2⟩
  | case3 => exact h.elim

theorem inProduct_replicate {S s : List Char} (h : ∀ c ∈ s, c ∈ S) : InProduct s (List.replicate s.length S) := by
  induction s with
  | nil => trivial
  | cons c cs ih => exact ⟨h c List.mem_cons_self, ih fun x hx => h x (List.mem_cons_of_mem _ hx)⟩

theorem scan_le (d : Dfa) (s : Str) (q i best : Nat) (h : best ≤ i + s.length) :
    (d.scan q s i best).1 ≤ i + s.length := by
  induction s generalizing q i best with
  | nil => exact h
  | cons c cs ih =>
    rw [Dfa.scan]
    split
    · rw [List.length_cons, ← Nat.add_assoc, Nat.add_right_comm] at h ⊢
      exact ih _ _ _ (by split <;> omega)
    · exact h

theorem longest_le (d : Dfa) (s : Str) : (d.longest s).1 ≤ s.length := by
  simpa [Dfa.longest] using scan_le d s d.start 0 0 (Nat.zero_le _)

/-- `scan` never looks at whether the state it starts from accepts, so on the empty string `best` has to say it.
After a step it does: `best` is then `i` exactly if the new state accepts. -/
theorem scan_eq_iff (d : Dfa) (s : Str) (q i best : Nat) (hb : best ≤ i)
    (h : s = [] → (best = i ↔ d.acc.contains q = true)) :
    (d.scan q s i best).1 = i + s.length ↔ ∃ q', d.runFrom q s = some q' ∧ d.acc.contains q' = true := by
  induction s generalizing q i best with
  | nil => simpa [Dfa.scan, Dfa.runFrom] using h rfl
  | cons c cs ih =>
    rw [Dfa.scan, Dfa.runFrom, List.length_cons, ← Nat.add_assoc, Nat.add_right_comm]
    split
    · next q' _ =>
      exact ih q' _ _ (by split <;> omega) fun _ => by cases d.acc.contains q' <;> simp <;> omega
    · simp; omega

theorem longest_eq_length_iff (d : Dfa) (s : Str) (hne : s ≠ []) :
    (d.longest s).1 = s.length ↔ d.accepts s = true := by
  simpa [Dfa.longest, accepts_iff] using scan_eq_iff d s d.start 0 0 (Nat.le_refl _) fun h => absurd h hne

theorem pick_stable : ∀ (l : List (Nat × Nat)) (k0 bi L : Nat), (∀ x ∈ l, x.1 ≤ L) → pick l k0 (bi, L) = (bi, L)
  | [], _, _, _, _ => rfl
  | (b, _) :: rest, k0, bi, L, h => by
    obtain ⟨hb, h⟩ := List.forall_mem_cons.mp h
    rw [pick, if_neg (Nat.not_lt.mpr hb)]
    exact pick_stable rest _ _ _ h

theorem pick_first_max {x : Nat × Nat} {post : List (Nat × Nat)} (hpost : ∀ y ∈ post, y.1 ≤ x.1) :
    ∀ (pre : List (Nat × Nat)) (k0 bi bl : Nat), bl < x.1 → (∀ y ∈ pre, y.1 < x.1) →
      pick (pre ++ x :: post) k0 (bi, bl) = (k0 + pre.length, x.1)
  | [], k0, bi, bl, hbl, _ => by
    rw [List.nil_append, pick, if_pos hbl]
    exact pick_stable post _ _ _ hpost
  | (b, _) :: pre, k0, bi, bl, hbl, hpre => by
    obtain ⟨hb, hpre⟩ := List.forall_mem_cons.mp hpre
    rw [List.cons_append, pick, List.length_cons, ← Nat.add_assoc, Nat.add_right_comm]
    split
    · exact pick_first_max hpost pre _ _ _ hb hpre
    · exact pick_first_max hpost pre _ _ _ hbl hpre

theorem lexFuel_nil (rules : Rules) (fuel : Nat) : lexFuel rules fuel [] = [] := by
  cases fuel <;> rfl

theorem lex_single (pre post : Rules) (r : String × Dfa) (s : Str) (hne : s ≠ [])
    (hacc : r.2.accepts s = true) (hpre : ∀ r' ∈ pre, r'.2.accepts s = false) :
    lex (pre ++ r :: post) s = [⟨r.1, s⟩] := by
  have hr := (longest_eq_length_iff _ s hne).mpr hacc
  have hpost : ∀ y ∈ post.map fun r => r.2.longest s, y.1 ≤ (r.2.longest s).1 := by
    simp only [List.forall_mem_map, hr]
    exact fun _ _ => longest_le _ _
  have hpre : ∀ y ∈ pre.map fun r => r.2.longest s, y.1 < (r.2.longest s).1 := by
    simp only [List.forall_mem_map, hr]
    exact fun r' h' => Nat.lt_of_le_of_ne (longest_le _ _) fun h => by
      simpa [hpre r' h'] using (longest_eq_length_iff _ s hne).mp h
  have hpick := pick_first_max hpost _ 0 0 0 (hr ▸ List.length_pos_iff.mpr hne) hpre
  obtain ⟨c, cs, rfl⟩ := List.exists_cons_of_ne_nil hne
  simp [lex, lexFuel, next, hpick, lexFuel_nil, hr]

end ZorgVerif.Lex

#print axioms ZorgVerif.Lex.allAccepted_sound
#print axioms ZorgVerif.Lex.noneAccepted_sound
#print axioms ZorgVerif.Lex.longest_le
#print axioms ZorgVerif.Lex.longest_eq_length_iff
#print axioms ZorgVerif.Lex.lex_single
