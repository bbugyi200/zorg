import ZorgVerif.Model.Index
/-! The abstract index store (`Model/Index.lean`).  The invariant `Inv` holds whether or not file names are distinct, so it is carried
along the loop (`reindexLoop_induct`).  Everything after it is page by page: a store is looked at through `s.at p` (the file,
indexed page and recorded hash of page `p`), and one fact carries the rest, `reindexPlain_at`: if the file names are distinct,
a plain reindex applies one function, `reindexCell`, to the state of every page.  `create` is the plain reindex of the store
with empty index. -/
namespace ZorgVerif.Index
open ZorgVerif

variable {Page : Type}

/-- re-processing a written-back text (against no previous state) reproduces it: what is indexed depends
only on the text that ends up in the file -/
def Stable (sem : Sem Page) : Prop := ∀ old t, sem.process none (sem.process old t).1 = sem.process old t

/-- the page a text is indexed as when indexed from scratch -/
def pageOf (sem : Sem Page) (t : Text) : Page := (sem.process none t).2

/-- a text that write-back leaves alone -/
def Settled (sem : Sem Page) (t : Text) : Prop := (sem.process none t).1 = t

def Inv (sem : Sem Page) (s : Store Page) : Prop :=
  ∀ p t, get s.hashes p = some t → Settled sem t ∧ get s.db p = some (pageOf sem t)

def Uniq {β : Type} (m : List (Path × β)) : Prop := (m.map (·.1)).Nodup

section Maps
variable {β : Type}

@[simp] theorem get_nil (p : Path) : get ([] : List (Path × β)) p = none := rfl

theorem get_cons (k : Path) (v : β) (m : List (Path × β)) (p : Path) :
    get ((k, v) :: m) p = if k = p then some v else get m p := by
  unfold get
  by_cases h : k = p <;> simp [h]

theorem get_filter_key (f : Path → Bool) (m : List (Path × β)) (q : Path) :
    get (m.filter (fun kv => f kv.1)) q = if f q then get m q else none := by
  induction m with
  | nil => simp
  | cons kv m ih =>
    obtain ⟨k, v⟩ := kv
    rw [List.filter_cons, get_cons]
    by_cases hkq : k = q
    · subst hkq; cases hk : f k <;> simp [hk, ih, get_cons]
    · split <;> simp [hkq, ih, get_cons]

theorem get_del (m : List (Path × β)) (p q : Path) :
    get (del m p) q = if q = p then none else get m q := by
  unfold del
  rw [get_filter_key (fun k => k != p) m q]
  by_cases h : q = p <;> simp [h]

theorem get_put (m : List (Path × β)) (p : Path) (v : β) (q : Path) :
    get (put m p v) q = if q = p then some v else get m q := by
  unfold put
  rw [get_cons, get_filter_key (fun k => k != p) m q]
  by_cases h : q = p
  · subst h; simp
  · have h' : ¬ p = q := fun e => h e.symm
    simp [h, h']

theorem get_put_self (m : List (Path × β)) (p : Path) (v : β) : get (put m p v) p = some v := by
  simp [get_put]

theorem get_put_ne (m : List (Path × β)) (p : Path) (v : β) {q : Path} (h : q ≠ p) :
    get (put m p v) q = get m q := by
  simp [get_put, h]

theorem get_map_val {γ : Type} (g : β → γ) (m : List (Path × β)) (q : Path) :
    get (m.map (fun kv => (kv.1, g kv.2))) q = (get m q).map g := by
  unfold get
  rw [List.find?_map, Option.map_map, Option.map_map]
  rfl

theorem get_eq_none_iff (m : List (Path × β)) (p : Path) :
    get m p = none ↔ p ∉ m.map (·.1) := by
  unfold get
  rw [Option.map_eq_none_iff, List.find?_eq_none]
  exact ⟨fun h hm => by obtain ⟨kv, hkv, rfl⟩ := List.mem_map.1 hm; exact h kv hkv (beq_self_eq_true _),
    fun h kv hkv e => h (List.mem_map.2 ⟨kv, hkv, eq_of_beq e⟩)⟩

theorem mem_of_get {m : List (Path × β)} {p : Path} {v : β} (h : get m p = some v) : (p, v) ∈ m := by
  obtain ⟨kv, hkv, rfl⟩ := Option.map_eq_some_iff.1 h
  have hk := List.find?_some hkv
  simp only [beq_iff_eq] at hk
  subst hk
  exact List.mem_of_find?_eq_some hkv

theorem Uniq.nil : Uniq ([] : List (Path × β)) := List.nodup_nil

theorem Uniq.filter {m : List (Path × β)} (h : Uniq m) (g : Path × β → Bool) : Uniq (m.filter g) := by
  unfold Uniq at *
  exact List.Pairwise.sublist (List.Sublist.map _ List.filter_sublist) h

theorem Uniq.filter_key {m : List (Path × β)} (h : Uniq m) (f : Path → Bool) :
    Uniq (m.filter (fun kv => f kv.1)) := h.filter _

theorem Uniq.del {m : List (Path × β)} (h : Uniq m) (p : Path) : Uniq (del m p) := h.filter _

theorem Uniq.put {m : List (Path × β)} (h : Uniq m) (p : Path) (v : β) : Uniq (put m p v) := by
  refine List.nodup_cons.2 ⟨fun hm => ?_, h.del p⟩
  obtain ⟨kv, hkv, hk⟩ := List.mem_map.1 hm
  simpa [hk] using (List.mem_filter.1 hkv).2

theorem Uniq.tail {kv : Path × β} {m : List (Path × β)} (h : Uniq (kv :: m)) : Uniq m :=
  (List.nodup_cons.1 h).2

theorem get_of_mem {m : List (Path × β)} (h : Uniq m) {p : Path} {v : β} (hm : (p, v) ∈ m) :
    get m p = some v := by
  induction m with
  | nil => simp at hm
  | cons kv m ih =>
    obtain ⟨k, w⟩ := kv
    rw [get_cons]
    rcases List.mem_cons.1 hm with e | hm'
    · cases e; simp
    · rw [if_neg, ih h.tail hm']
      rintro rfl
      exact (List.nodup_cons.1 h).1 (List.mem_map.2 ⟨_, hm', rfl⟩)

end Maps

theorem Stable.settled {sem : Sem Page} (hs : Stable sem) (old : Option Page) (t : Text) :
    Settled sem (sem.process old t).1 := by
  unfold Settled; rw [hs old t]

theorem Stable.pageOf {sem : Sem Page} (hs : Stable sem) (old : Option Page) (t : Text) :
    pageOf sem (sem.process old t).1 = (sem.process old t).2 := by
  unfold Index.pageOf; rw [hs old t]

theorem Settled.process {sem : Sem Page} {t : Text} (h : Settled sem t) :
    sem.process none t = (t, pageOf sem t) :=
  Prod.ext h rfl

/-- one iteration of `reindexLoop` -/
def loopStep (sem : Sem Page) (s : Store Page) (p : Path) (t : Text) : Store Page :=
  if get s.hashes p == some t then s else indexOne sem s p t

theorem reindexLoop_cons (sem : Sem Page) (p : Path) (t : Text) (rest : List (Path × Text))
    (s : Store Page) :
    reindexLoop sem ((p, t) :: rest) s = reindexLoop sem rest (loopStep sem s p t) := by
  rw [Index.reindexLoop]
  unfold loopStep
  split <;> rfl

theorem loopStep_pos {sem : Sem Page} {s : Store Page} {p : Path} {t : Text}
    (h : get s.hashes p = some t) : loopStep sem s p t = s := by
  unfold loopStep; simp [h]

theorem loopStep_neg {sem : Sem Page} {s : Store Page} {p : Path} {t : Text}
    (h : get s.hashes p ≠ some t) : loopStep sem s p t = indexOne sem s p t := by
  unfold loopStep; simp [h]

theorem reindexLoop_induct {sem : Sem Page} {P : Store Page → Prop}
    (h : ∀ s p t, P s → P (indexOne sem s p t)) (todo : List (Path × Text)) :
    ∀ {s : Store Page}, P s → P (reindexLoop sem todo s) := by
  induction todo with
  | nil => exact id
  | cons kv rest ih =>
    intro s hP
    rw [reindexLoop_cons]
    apply ih
    unfold loopStep
    split
    · exact hP
    · exact h _ _ _ hP

theorem Inv.indexOne {sem : Sem Page} (hs : Stable sem) {s : Store Page} (h : Inv sem s)
    (p : Path) (t : Text) : Inv sem (indexOne sem s p t) := by
  intro q u hq
  simp only [Index.indexOne, get_put] at hq ⊢
  split at hq
  · cases hq
    exact ⟨hs.settled _ _, by rw [if_pos ‹_›, hs.pageOf]⟩
  · rw [if_neg ‹_›]
    exact h q u hq

theorem Inv.reindexLoop {sem : Sem Page} (hs : Stable sem) (todo : List (Path × Text)) {s : Store Page}
    (h : Inv sem s) : Inv sem (reindexLoop sem todo s) :=
  reindexLoop_induct (fun _ p t h => h.indexOne hs p t) todo h

/-- `Inv` does not mention the files, so they are free; a page that keeps its hash has to keep its index entry (`hfg`) -/
theorem Inv.filter {sem : Sem Page} {s : Store Page} (h : Inv sem s) (f g : Path → Bool)
    (hfg : ∀ p, f p = true → g p = true) (fs : List (Path × Text)) :
    Inv sem { files := fs, db := s.db.filter (fun kv => g kv.1),
              hashes := s.hashes.filter (fun kv => f kv.1) } := by
  intro q u hq
  simp only [get_filter_key f] at hq
  simp only [get_filter_key g]
  split at hq
  · rw [if_pos (hfg q ‹_›)]
    exact h q u hq
  · cases hq

/-- the store `reindexPlain` starts its loop from -/
def pruned (s : Store Page) : Store Page :=
  { s with db := s.db.filter (fun kv => (get s.files kv.1).isSome),
           hashes := s.hashes.filter (fun kv => (get s.files kv.1).isSome) }

theorem reindexPlain_eq (sem : Sem Page) (s : Store Page) :
    reindexPlain sem s = reindexLoop sem s.files (pruned s) := rfl

theorem Inv.pruned {sem : Sem Page} {s : Store Page} (h : Inv sem s) : Inv sem (pruned s) :=
  h.filter (fun k => (get s.files k).isSome) (fun k => (get s.files k).isSome) (fun _ h => h) s.files

theorem Inv.reindexPlain {sem : Sem Page} (hs : Stable sem) {s : Store Page} (h : Inv sem s) :
    Inv sem (reindexPlain sem s) :=
  h.pruned.reindexLoop hs _

theorem Inv.reindexPaths {sem : Sem Page} (hs : Stable sem) {s : Store Page} (h : Inv sem s)
    (ps : List Path) : Inv sem (reindexPaths sem ps s) := by
  have h' := h.filter (fun k => ps.contains k) (fun _ => true) (fun _ _ => rfl) s.files
  rw [List.filter_eq_self.2 (fun _ _ => rfl)] at h'
  exact h'.reindexLoop hs _

theorem Inv.step {sem : Sem Page} (hs : Stable sem) {s : Store Page} (h : Inv sem s) (op : Op) :
    Inv sem (step sem s op) := by
  cases op with
  | write p t => exact h
  | remove p => exact h
  | reindex => exact h.reindexPlain hs
  | reindexOnly ps => exact h.reindexPaths hs ps

theorem Inv.run {sem : Sem Page} (hs : Stable sem) (ops : List Op) :
    ∀ {s : Store Page}, Inv sem s → Inv sem (run sem s ops) := by
  induction ops with
  | nil => exact id
  | cons op ops ih => exact fun h => ih (h.step hs op)

theorem Uniq.reindexLoop_files {sem : Sem Page} (todo : List (Path × Text)) {s : Store Page}
    (h : Uniq s.files) : Uniq (reindexLoop sem todo s).files :=
  reindexLoop_induct (P := fun s => Uniq s.files) (fun _ _ _ h => h.put _ _) todo h

theorem Uniq.step_files {sem : Sem Page} {s : Store Page} (h : Uniq s.files) (op : Op) :
    Uniq (step sem s op).files := by
  cases op with
  | write p t => exact h.put p t
  | remove p => exact h.del p
  | reindex => exact Uniq.reindexLoop_files (s := pruned s) _ h
  | reindexOnly ps => exact Uniq.reindexLoop_files (s := { s with hashes := _ }) _ h

theorem Uniq.run_files {sem : Sem Page} (ops : List Op) :
    ∀ {s : Store Page}, Uniq s.files → Uniq (run sem s ops).files := by
  induction ops with
  | nil => exact id
  | cons op ops ih => exact fun h => ih (h.step_files op)

/-- the state of one page -/
structure Cell (Page : Type) where
  file : Option Text
  page : Option Page
  hash : Option Text

def Store.at (s : Store Page) (p : Path) : Cell Page := ⟨get s.files p, get s.db p, get s.hashes p⟩

theorem Store.at_ext {a b : Store Page} {p : Path} (h1 : get a.files p = get b.files p)
    (h2 : get a.db p = get b.db p) (h3 : get a.hashes p = get b.hashes p) : a.at p = b.at p := by
  rw [Store.at, h1, h2, h3, Store.at]

section
variable {s : Store Page} {p : Path} {f h : Option Text} {d : Option Page} (e : s.at p = ⟨f, d, h⟩)
include e

theorem Store.files_of_at : get s.files p = f := (Cell.mk.inj e).1
theorem Store.db_of_at : get s.db p = d := (Cell.mk.inj e).2.1
theorem Store.hashes_of_at : get s.hashes p = h := (Cell.mk.inj e).2.2

end

theorem Store.maps_eq {a b : Store Page} (h : ∀ p, a.at p = b.at p) :
    (∀ p, get a.files p = get b.files p) ∧ (∀ p, get a.db p = get b.db p) ∧
    (∀ p, get a.hashes p = get b.hashes p) :=
  ⟨fun p => Store.files_of_at (h p), fun p => Store.db_of_at (h p), fun p => Store.hashes_of_at (h p)⟩

/-- what the iteration of the loop for a file with text `t` does to the state of its page -/
def loopCell (sem : Sem Page) (t : Text) (x : Cell Page) : Cell Page :=
  if x.hash = some t then x else
    ⟨some (sem.process x.page t).1, some (sem.process x.page t).2, some (sem.process x.page t).1⟩

/-- what a plain reindex does to the state of a page -/
def reindexCell (sem : Sem Page) (x : Cell Page) : Cell Page :=
  match x.file with
  | none => ⟨none, none, none⟩
  | some t => loopCell sem t x

theorem indexOne_at (sem : Sem Page) (s : Store Page) (p : Path) (t : Text) (q : Path) :
    (indexOne sem s p t).at q = if q = p then ⟨some (sem.process (get s.db p) t).1,
      some (sem.process (get s.db p) t).2, some (sem.process (get s.db p) t).1⟩ else s.at q := by
  unfold Store.at indexOne
  split
  · subst q; rw [get_put_self, get_put_self, get_put_self]
  · rw [get_put_ne _ _ _ ‹_›, get_put_ne _ _ _ ‹_›, get_put_ne _ _ _ ‹_›]

theorem loopStep_at (sem : Sem Page) (s : Store Page) (p : Path) (t : Text) (q : Path) :
    (loopStep sem s p t).at q = if q = p then loopCell sem t (s.at p) else s.at q := by
  by_cases hh : get s.hashes p = some t
  · rw [loopStep_pos hh, show loopCell sem t (s.at p) = s.at p from if_pos hh]
    split
    · subst q; rfl
    · rfl
  · rw [loopStep_neg hh, show loopCell sem t (s.at p) = _ from if_neg hh]
    exact indexOne_at sem s p t q

theorem reindexLoop_at (sem : Sem Page) {todo : List (Path × Text)} (hu : Uniq todo) (q : Path) :
    ∀ st : Store Page, (reindexLoop sem todo st).at q = match get todo q with
      | none => st.at q
      | some t => loopCell sem t (st.at q) := by
  induction todo with
  | nil => exact fun _ => rfl
  | cons kv rest ih =>
    obtain ⟨p, t⟩ := kv
    intro st
    rw [reindexLoop_cons, ih hu.tail, get_cons, loopStep_at]
    by_cases e : p = q
    · subst e; rw [(get_eq_none_iff rest p).2 (List.nodup_cons.1 hu).1, if_pos rfl, if_pos rfl]
    · rw [if_neg e, if_neg (Ne.symm e)]

theorem pruned_at (s : Store Page) (q : Path) :
    (pruned s).at q = if (get s.files q).isSome then s.at q else ⟨none, none, none⟩ := by
  unfold Store.at pruned
  rw [get_filter_key (fun k => (get s.files k).isSome), get_filter_key (fun k => (get s.files k).isSome)]
  cases get s.files q <;> rfl

theorem reindexPlain_at (sem : Sem Page) {s : Store Page} (hu : Uniq s.files) (q : Path) :
    (reindexPlain sem s).at q = reindexCell sem (s.at q) := by
  rw [reindexPlain_eq, reindexLoop_at sem hu, pruned_at, reindexCell]
  -- `(s.at q).file` is `get s.files q`
  show _ = match get s.files q with | none => _ | some t => _
  cases get s.files q <;> rfl

section
variable (sem : Sem Page) {s : Store Page} (hu : Uniq s.files) {q : Path}
include hu

theorem reindexPlain_none (hf : get s.files q = none) : (reindexPlain sem s).at q = ⟨none, none, none⟩ := by
  rw [reindexPlain_at sem hu, reindexCell, show (s.at q).file = none from hf]

theorem reindexPlain_same {t : Text} (hf : get s.files q = some t) (hh : get s.hashes q = some t) :
    (reindexPlain sem s).at q = s.at q := by
  rw [reindexPlain_at sem hu, reindexCell, show (s.at q).file = some t from hf]
  exact if_pos hh

theorem reindexPlain_changed {t : Text} (hf : get s.files q = some t) (hh : get s.hashes q ≠ some t) :
    (reindexPlain sem s).at q = ⟨some (sem.process (get s.db q) t).1, some (sem.process (get s.db q) t).2,
      some (sem.process (get s.db q) t).1⟩ := by
  rw [reindexPlain_at sem hu, reindexCell, show (s.at q).file = some t from hf]
  exact if_neg hh

end

theorem reindexCell_spec {sem : Sem Page} (hs : Stable sem) {f h : Option Text} {d : Option Page}
    (hinv : ∀ t, f = some t → h = some t → Settled sem t ∧ d = some (pageOf sem t)) :
    ∃ f', reindexCell sem ⟨f, d, h⟩ = ⟨f', f'.map (pageOf sem), f'⟩ ∧ (∀ t, f' = some t → Settled sem t) ∧
      f'.isSome = f.isSome := by
  cases f with
  | none => exact ⟨none, rfl, nofun, rfl⟩
  | some t =>
    by_cases hh : h = some t
    · obtain ⟨a, rfl⟩ := hinv t rfl hh
      subst hh
      exact ⟨some t, if_pos rfl, fun u e => by cases e; exact a, rfl⟩
    · refine ⟨some (sem.process d t).1, (if_neg hh).trans ?_, fun u e => by cases e; exact hs.settled d t, rfl⟩
      rw [Option.map_some, hs.pageOf]

/-- The hypothesis is what `Inv` says of the pages whose recorded hash is their current text; it is also all that
is left of `Inv` after a kill (`Crash.InvM`). -/
theorem reindexPlain_spec {sem : Sem Page} (hs : Stable sem) {s : Store Page}
    (hinv : ∀ p t, get s.files p = some t → get s.hashes p = some t →
      Settled sem t ∧ get s.db p = some (pageOf sem t))
    (hu : Uniq s.files) :
    (∀ p, get (reindexPlain sem s).db p = (get (reindexPlain sem s).files p).map (pageOf sem)) ∧
    (∀ p t, get (reindexPlain sem s).files p = some t → Settled sem t) ∧
    (∀ p, get (reindexPlain sem s).hashes p = get (reindexPlain sem s).files p) ∧
    Uniq (reindexPlain sem s).files ∧
    (∀ p, (get (reindexPlain sem s).files p).isSome = (get s.files p).isSome) := by
  refine ⟨fun p => ?_, fun p => ?_, fun p => ?_, hu.step_files Op.reindex, fun p => ?_⟩
  all_goals
    obtain ⟨f', e, hf, hi⟩ := reindexCell_spec hs (hinv p)
    obtain ⟨rfl, e2, e3⟩ := Cell.mk.inj ((reindexPlain_at sem hu p).trans e)
  · exact e2
  · exact hf
  · exact e3
  · exact hi

theorem Inv.empty (sem : Sem Page) (fs : List (Path × Text)) :
    Inv sem ({ files := fs, db := [], hashes := [] } : Store Page) := by
  intro p t h; simp at h

def blank (s : Store Page) : Store Page := { files := s.files, db := [], hashes := [] }

/-- `create` (which only looks at the files of its argument) is the plain reindex of the empty index -/
theorem create_eq (sem : Sem Page) (s : Store Page) : create sem s = reindexPlain sem (blank s) := rfl

theorem create_spec {sem : Sem Page} (hs : Stable sem) (s : Store Page) (hu : Uniq s.files) :
    (∀ p, get (create sem s).db p = (get (create sem s).files p).map (pageOf sem)) ∧
    (∀ p t, get (create sem s).files p = some t → Settled sem t) ∧
    (∀ p, get (create sem s).hashes p = get (create sem s).files p) ∧
    Uniq (create sem s).files ∧
    (∀ p, (get (create sem s).files p).isSome = (get s.files p).isSome) :=
  reindexPlain_spec (s := blank s) hs (fun p t _ => Inv.empty sem s.files p t) hu

theorem create_spec' {sem : Sem Page} (hs : Stable sem) (fs : List (Path × Text)) (hu : Uniq fs) :
    let s' := create sem ({ files := fs, db := [], hashes := [] } : Store Page)
    (∀ p, get s'.db p = (get s'.files p).map (pageOf sem)) ∧
    (∀ p t, get s'.files p = some t → Settled sem t) ∧
    (∀ p, get s'.hashes p = get s'.files p) ∧
    Uniq s'.files ∧
    (∀ p, (get s'.files p).isSome = (get fs p).isSome) :=
  create_spec hs _ hu

theorem create_of_agree {sem : Sem Page} {s : Store Page} (hu : Uniq s.files)
    (ha : ∀ p, get s.db p = (get s.files p).map (pageOf sem))
    (hb : ∀ p t, get s.files p = some t → Settled sem t)
    (hc : ∀ p, get s.hashes p = get s.files p) (p : Path) : (create sem s).at p = s.at p := by
  show (reindexPlain sem (blank s)).at p = ⟨get s.files p, get s.db p, get s.hashes p⟩
  rw [ha, hc]
  cases hf : get s.files p with
  | none => exact reindexPlain_none sem (s := blank s) hu hf
  | some t =>
    rw [reindexPlain_changed sem (s := blank s) hu hf nofun, show get (blank s).db p = none from rfl,
      (hb p t hf).process]
    rfl

theorem run_append_reindex (sem : Sem Page) (s : Store Page) (ops : List Op) :
    run sem s (ops ++ [Op.reindex]) = reindexPlain sem (run sem s ops) := by
  unfold run; rw [List.foldl_append]; rfl

theorem rebuild_after_reindex {sem : Sem Page} (hs : Stable sem) {s0 : Store Page} (hinv : Inv sem s0)
    (hu : Uniq s0.files) (ops : List Op) (p : Path) :
    (create sem (run sem s0 (ops ++ [Op.reindex]))).at p = (run sem s0 (ops ++ [Op.reindex])).at p := by
  rw [run_append_reindex]
  obtain ⟨ha, hb, hc, hd, _⟩ := reindexPlain_spec hs (fun p t _ => hinv.run hs ops p t)
    (Uniq.run_files (sem := sem) ops hu)
  exact create_of_agree hd ha hb hc p

theorem reindex_eq_rebuild_hashes {sem : Sem Page} (hs : Stable sem) {s0 : Store Page}
    (hinv : Inv sem s0) (hu : Uniq s0.files) (ops : List Op) :
    let s := run sem s0 (ops ++ [Op.reindex])
    let fresh := create sem ({ files := s.files, db := [], hashes := [] } : Store Page)
    ∀ p, get fresh.hashes p = get s.hashes p :=
  fun p => Store.hashes_of_at (rebuild_after_reindex hs hinv hu ops p)

theorem reindexLoop_noop (sem : Sem Page) (todo : List (Path × Text)) (st : Store Page)
    (h : ∀ p t, (p, t) ∈ todo → get st.hashes p = some t) : reindexLoop sem todo st = st := by
  induction todo with
  | nil => rfl
  | cons kv rest ih =>
    obtain ⟨p, t⟩ := kv
    rw [reindexLoop_cons, loopStep_pos (h p t (List.mem_cons_self))]
    exact ih (fun q u hq => h q u (List.mem_cons_of_mem _ hq))

theorem reindexPlain_idem {sem : Sem Page} (hs : Stable sem) {s : Store Page} (hinv : Inv sem s)
    (hu : Uniq s.files) :
    (reindexPlain sem (reindexPlain sem s)).files = (reindexPlain sem s).files ∧
    (∀ p, get (reindexPlain sem (reindexPlain sem s)).db p = get (reindexPlain sem s).db p) ∧
    (∀ p, get (reindexPlain sem (reindexPlain sem s)).hashes p = get (reindexPlain sem s).hashes p) := by
  obtain ⟨ha, _, hc, hd, _⟩ := reindexPlain_spec hs (fun p t _ => hinv p t) hu
  have e : ∀ p, (pruned (reindexPlain sem s)).at p = (reindexPlain sem s).at p := fun p => by
    rw [pruned_at, Store.at, ha, hc]
    cases get (reindexPlain sem s).files p <;> rfl
  rw [reindexPlain_eq (s := reindexPlain sem s), reindexLoop_noop]
  · exact ⟨rfl, (Store.maps_eq e).2⟩
  · intro p t hm
    exact (Store.hashes_of_at (e p)).trans ((hc p).trans (get_of_mem hd hm))

#print axioms Inv.step
#print axioms Inv.run
#print axioms reindexPlain_spec
#print axioms create_spec
#print axioms reindex_eq_rebuild_hashes
#print axioms reindexPlain_idem

end ZorgVerif.Index
