import ZorgVerif.Lemmas.Zid
/-! Allocation state machine: invariant "everything handed out for a date ranks below that date's
stored successor". -/
namespace ZorgVerif.Zid

def Shape (al : List Char) (s : List Char) : Prop := Valid al s ∧ (s.length = 2 ∨ s.length = 3)

/-- position of a suffix in the chain `00, 01, …, zz, 000, …, zzz` -/
def rank (al : List Char) (s : List Char) : Nat :=
  (if s.length = 2 then 0 else al.length ^ 2) + rankRev al s.reverse

theorem valid_reverse {al s} (h : Valid al s) : Valid al s.reverse := fun c hc => h c (List.mem_reverse.1 hc)

theorem rankRev_reverse_lt {al s} (h : Valid al s) : rankRev al s.reverse < al.length ^ s.length := by
  simpa using rankRev_lt (valid_reverse h)

theorem rank_lt {al s} (h : Shape al s) : rank al s < al.length ^ 2 + al.length ^ 3 := by
  have := rankRev_reverse_lt h.1
  unfold rank
  rcases h.2 with hl | hl <;> simp [hl] at this ⊢ <;> omega

theorem rank_inj {al s t} (hs : Shape al s) (ht : Shape al t) (h : rank al s = rank al t) : s = t := by
  have b1 := rankRev_reverse_lt hs.1
  have b2 := rankRev_reverse_lt ht.1
  unfold rank at h
  -- a suffix of two letters ranks below `|al|²`, one of three letters does not, so the lengths agree
  have hlen : s.length = t.length := by
    rcases hs.2 with hl | hl <;> rcases ht.2 with hl' | hl' <;>
      simp only [hl, hl', reduceIte, Nat.reduceEqDiff] at h b1 b2 <;> omega
  rw [hlen] at h
  have := rankRev_inj (valid_reverse hs.1) (valid_reverse ht.1) (by simpa using hlen) (Nat.add_left_cancel h)
  simpa using congrArg List.reverse this

theorem nextId_spec {excl al} (o : Odometer excl al) (s : List Char) (h : Shape al s) :
    (∀ s', nextId excl s = .ok s' → Shape al s' ∧ rank al s' = rank al s + 1) ∧
    (nextId excl s = .error .outOfIds ↔ rank al s + 1 = al.length ^ 2 + al.length ^ 3) := by
  obtain ⟨hv, hl⟩ := h
  have hpos : 0 < al.length ^ 3 := Nat.pow_pos (List.length_pos_of_mem (zero_mem o))
  unfold nextId
  match bumpRev excl s.reverse, bumpRev_spec o s.reverse (valid_reverse hv) with
  | some r, ⟨rl, rv, rr⟩ =>
    -- same length, one more in the last place
    rw [List.length_reverse] at rl
    have hshape : Shape al r.reverse := ⟨valid_reverse rv, by simpa [rl] using hl⟩
    have hrank : rank al r.reverse = rank al s + 1 := by
      simp only [rank, List.length_reverse, List.reverse_reverse, rl, rr]; omega
    have := rank_lt hshape
    exact ⟨fun s' hs' => by cases hs'; exact ⟨hshape, hrank⟩, nofun, fun h => by omega⟩
  | none, hb =>
    rw [List.length_reverse] at hb
    rcases hl with hl | hl
    · -- `zz` is followed by `000`
      have h0 : Shape al ['0', '0', '0'] :=
        ⟨fun c hc => by simp at hc; rw [hc]; exact zero_mem o, Or.inr rfl⟩
      rw [hl] at hb
      have hs : rank al s = rankRev al s.reverse := by simp [rank, hl]
      have hrank : rank al ['0', '0', '0'] = rank al s + 1 := by
        rw [hs, hb]; simp [rank, rankRev, idxOf_zero o]
      rw [if_pos hl]
      exact ⟨fun s' hs' => by cases hs'; exact ⟨h0, hrank⟩, nofun, fun h => by omega⟩
    · have h2 : ¬s.length = 2 := by omega
      rw [hl] at hb
      have hs : rank al s = al.length ^ 2 + rankRev al s.reverse := by simp [rank, h2]
      rw [if_neg h2]
      exact ⟨nofun, fun _ => by omega, fun _ => rfl⟩

theorem lookup_insert (m : Ids) (k v k' : List Char) :
    lookup (insert m k v) k' = if k = k' then some v else lookup m k' := by
  induction m with
  | nil => simp [insert, lookup]
  | cons p rest ih =>
    obtain ⟨a, b⟩ := p
    simp only [insert]
    by_cases h : a = k
    · subst h; by_cases h2 : a = k' <;> simp [lookup, h2]
    · simp only [h, if_false, lookup, ih]
      by_cases h2 : a = k'
      · subst h2; have : ¬ k = a := fun e => h e.symm; simp [this]
      · simp [h2]

/-- Everything in the persisted map has the right shape; every id handed out so far (`H`) has the
right shape and ranks strictly below the stored successor for its date. -/
def Inv (al : List Char) (m : Ids) (H : List (List Char × List Char)) : Prop :=
  (∀ k v, lookup m k = some v → Shape al v) ∧
  (∀ z ∈ H, Shape al z.2 ∧ ∃ v, lookup m z.1 = some v ∧ rank al z.2 < rank al v)

theorem Inv.nil (al : List Char) : Inv al [] [] := ⟨nofun, nofun⟩

/-- what was handed out ranks below a stored successor, hence is not the last of the chain -/
theorem Inv.rank_succ_lt {al m H} (hi : Inv al m H) {z} (hz : z ∈ H) :
    rank al z.2 + 1 < al.length ^ 2 + al.length ^ 3 := by
  obtain ⟨_, v, hv, hr⟩ := hi.2 z hz
  have := rank_lt (hi.1 _ _ hv)
  omega

theorem shape_00 {excl al} (o : Odometer excl al) : Shape al ['0', '0'] := by
  refine ⟨?_, Or.inl rfl⟩
  intro c hc; simp at hc; rw [hc]; exact zero_mem o

theorem rank_00 {excl al} (o : Odometer excl al) : rank al ['0', '0'] = 0 := by
  simp [rank, rankRev, idxOf_zero o]

/-- the suffix `alloc` hands out for a date: well-shaped, and above everything handed out for that date -/
theorem Inv.getD {excl al} (o : Odometer excl al) {m H} (hi : Inv al m H) (k : List Char) :
    Shape al ((lookup m k).getD ['0', '0']) ∧
      ∀ z ∈ H, z.1 = k → rank al z.2 < rank al ((lookup m k).getD ['0', '0']) := by
  refine ⟨?_, fun z hz hk => ?_⟩
  · cases hl : lookup m k with
    | none => exact shape_00 o
    | some v => exact hi.1 k v hl
  · obtain ⟨_, v, hv, hr⟩ := hi.2 z hz
    rw [← hk, hv]; exact hr

theorem alloc_step {excl al} (o : Odometer excl al) {m m' : Ids} {H} {k : List Char} {z}
    (hi : Inv al m H) (ha : alloc excl m k = .ok (m', z)) :
    Inv al m' (z :: H) ∧ z ∉ H ∧ z.1 = k ∧ Shape al z.2 := by
  obtain ⟨hshape, hfresh⟩ := hi.getD o k
  obtain ⟨hm, hH⟩ := hi
  rw [alloc] at ha
  generalize (lookup m k).getD ['0', '0'] = idPart at ha hshape hfresh
  cases hn : nextId excl idPart with
  | error e => rw [hn] at ha; cases ha
  | ok nxt =>
    rw [hn] at ha
    cases ha
    obtain ⟨hns, hnr⟩ := (nextId_spec o idPart hshape).1 nxt hn
    refine ⟨⟨?_, ?_⟩, fun hmem => Nat.lt_irrefl _ (hfresh _ hmem rfl), rfl, hshape⟩
    · intro k' v hv
      rw [lookup_insert] at hv
      split at hv
      · cases hv; exact hns
      · exact hm k' v hv
    · -- the new successor `nxt` is above `idPart`, which is above everything handed out for `k`
      intro y hy
      rcases List.mem_cons.1 hy with rfl | h
      · exact ⟨hshape, nxt, by rw [lookup_insert, if_pos rfl], hnr ▸ Nat.lt_succ_self _⟩
      · obtain ⟨hs, v, hv, hr⟩ := hH y h
        refine ⟨hs, ?_⟩
        rw [lookup_insert]
        split
        · next hk => exact ⟨nxt, rfl, by have := hfresh y h hk.symm; omega⟩
        · exact ⟨v, hv, hr⟩

theorem allocs_fresh {excl al} (o : Odometer excl al) :
    ∀ (ds : List (List Char)) (m : Ids) (H), Inv al m H →
      (allocs excl m ds).Nodup ∧ (∀ z ∈ allocs excl m ds, z ∉ H ∧ z.1 ∈ ds ∧ Shape al z.2 ∧
        rank al z.2 + 1 < al.length ^ 2 + al.length ^ 3) := by
  intro ds
  induction ds with
  | nil => exact fun _ _ _ => ⟨List.nodup_nil, nofun⟩
  | cons d ds ih =>
    intro m H hi
    rw [allocs]
    cases ha : alloc excl m d with
    | error e =>
      obtain ⟨h1, h2⟩ := ih m H hi
      exact ⟨h1, fun z hz => ⟨(h2 z hz).1, List.mem_cons_of_mem _ (h2 z hz).2.1, (h2 z hz).2.2⟩⟩
    | ok p =>
      obtain ⟨m', z⟩ := p
      obtain ⟨hi', hz, hk, hs⟩ := alloc_step o hi ha
      obtain ⟨h1, h2⟩ := ih m' (z :: H) hi'
      refine ⟨List.nodup_cons.2 ⟨fun hmem => (h2 z hmem).1 List.mem_cons_self, h1⟩, fun y hy => ?_⟩
      rcases List.mem_cons.1 hy with rfl | h
      · exact ⟨hz, hk ▸ List.mem_cons_self, hs, hi'.rank_succ_lt List.mem_cons_self⟩
      · obtain ⟨a, b, c⟩ := h2 y h
        exact ⟨fun hm => a (List.mem_cons_of_mem _ hm), List.mem_cons_of_mem _ b, c⟩

/-- both halves are read off by splitting at the first `#` -/
theorem zidString_inj {z w : List Char × List Char} (hz : '#' ∉ z.1) (hw : '#' ∉ w.1)
    (h : zidString z = zidString w) : z = w := by
  have h1 := congrArg (splitOn '#') h
  rw [zidString, zidString, splitOn_append_sep _ _ _ hz, splitOn_append_sep _ _ _ hw, List.cons.injEq] at h1
  have h2 := congrArg (joinWith ['#']) h1.2
  rw [joinWith_splitOn, joinWith_splitOn] at h2
  exact Prod.ext h1.1 h2

end ZorgVerif.Zid
