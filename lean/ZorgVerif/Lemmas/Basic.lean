import ZorgVerif.Model.Basic
/-! Facts about characters, lists, `Except` and the string functions of `Model/Basic.lean` that the lemma files of
several models share. -/

theorem Char.toNat_ofNat {n : Nat} (h : n.isValidChar) : (Char.ofNat n).toNat = n := by
  simp [Char.ofNat, h, Char.toNat, Char.ofNatAux]

namespace List
variable {α : Type}

/-! ### `dropWhile` from both ends, which is how the models spell `str.strip` -/

theorem dropWhile_eq_self_of_head? {p : α → Bool} {l : List α} (h : ∀ a ∈ l.head?, p a = false) :
    l.dropWhile p = l := by
  cases l with
  | nil => rfl
  | cons a t => rw [dropWhile_cons, h a rfl]; rfl

theorem head?_dropWhile_false (p : α → Bool) (l : List α) : ∀ a ∈ (l.dropWhile p).head?, p a = false := by
  intro a ha
  have := head?_dropWhile_not p l
  rw [Option.mem_def.1 ha] at this
  exact this

/-- The stripped list is a prefix of `l.dropWhile p`, so its head, if any, fails `p`; its reverse is itself a
`dropWhile p`. -/
theorem strip_idem (p : α → Bool) (l : List α) :
    ((((l.dropWhile p).reverse.dropWhile p).reverse.dropWhile p).reverse.dropWhile p).reverse =
      ((l.dropWhile p).reverse.dropWhile p).reverse := by
  have hpre : ((l.dropWhile p).reverse.dropWhile p).reverse <+: l.dropWhile p := by
    simpa using reverse_prefix.2 (dropWhile_suffix (l := (l.dropWhile p).reverse) p)
  rw [dropWhile_eq_self_of_head? (l := ((l.dropWhile p).reverse.dropWhile p).reverse), reverse_reverse,
    dropWhile_eq_self_of_head? (head?_dropWhile_false p _)]
  intro a ha
  obtain ⟨v, hv⟩ := hpre
  refine head?_dropWhile_false p l a ?_
  rw [← hv, head?_append, Option.mem_def.1 ha]
  rfl

/-! ### "`pat` occurs in `s`", as the models spell it (`hasSub`, `occurs`, `isInfix`, `hasInfix`, `hasInfixStr`) -/

theorem any_range_drop_cons (f : List α → Bool) (c : α) (s : List α) :
    (range ((c :: s).length + 1)).any (fun i => f ((c :: s).drop i)) =
      (f (c :: s) || (range (s.length + 1)).any (fun i => f (s.drop i))) := by
  rw [length_cons, range_succ_eq_map, any_cons, any_map]; rfl

theorem any_range_isPrefixOf_iff_infix [BEq α] [LawfulBEq α] (pat s : List α) :
    (range (s.length + 1)).any (fun i => pat.isPrefixOf (s.drop i)) = true ↔ pat <:+: s := by
  induction s with
  | nil => simp [isPrefixOf_iff_prefix, infix_nil]
  | cons c s ih => rw [any_range_drop_cons, Bool.or_eq_true, ih, isPrefixOf_iff_prefix, infix_cons_iff]

end List

/-! ### `Except`: with the three `rfl` equations `simp` computes a `do` block on constructors; `bind_eq_ok` inverts a
successful bind -/

namespace Except
variable {ε α β : Type}

@[simp] theorem ok_bind (a : α) (f : α → Except ε β) : (Except.ok a >>= f) = f a := rfl
@[simp] theorem error_bind (e : ε) (f : α → Except ε β) : (Except.error e >>= f) = .error e := rfl
@[simp] theorem pure_eq_ok (a : α) : (pure a : Except ε α) = .ok a := rfl

theorem bind_eq_ok {x : Except ε α} {f : α → Except ε β} {b : β} :
    (x >>= f) = .ok b ↔ ∃ a, x = .ok a ∧ f a = .ok b := by
  cases x with
  | error e => exact ⟨nofun, nofun⟩
  | ok a => exact ⟨fun h => ⟨a, rfl, h⟩, fun ⟨_, h, h'⟩ => by cases h; exact h'⟩

theorem bind_ok {x : Except ε α} {f : α → Except ε β} (hx : ∃ a, x = .ok a) (hf : ∀ a, ∃ b, f a = .ok b) :
    ∃ b, (x >>= f) = .ok b := by
  obtain ⟨a, rfl⟩ := hx
  exact hf a

theorem ite_error_eq_ok {c : Bool} {e : ε} {x : Except ε α} {a : α} :
    (if c then .error e else x) = .ok a ↔ c = false ∧ x = .ok a := by
  cases c
  · exact ⟨fun h => ⟨rfl, h⟩, fun h => h.2⟩
  · exact ⟨nofun, nofun⟩

end Except

namespace List
variable {ε α β : Type}

theorem foldlM_ok {f : β → α → Except ε β} (h : ∀ b a, ∃ b', f b a = .ok b') :
    ∀ (l : List α) (b : β), ∃ b', l.foldlM f b = .ok b'
  | [], b => ⟨b, rfl⟩
  | a :: l, b => by
    obtain ⟨b1, h1⟩ := h b a
    rw [foldlM_cons, h1]
    exact foldlM_ok h l b1

theorem foldlM_ok_rel {f : β → α → Except ε β} (R : β → β → Prop) (refl : ∀ b, R b b)
    (trans : ∀ {a b c}, R a b → R b c → R a c) (step : ∀ {b a b'}, f b a = .ok b' → R b b') :
    ∀ (l : List α) {b b' : β}, l.foldlM f b = .ok b' → R b b'
  | [], b, b', h => by cases h; exact refl b
  | a :: l, b, b', h => by
    rw [foldlM_cons] at h
    obtain ⟨b1, h1, h2⟩ := Except.bind_eq_ok.1 h
    exact trans (step h1) (foldlM_ok_rel R refl trans step l h2)

end List

namespace ZorgVerif

/-- a function that recurses on fuel and is given enough of it makes a step -/
theorem exists_fuel {n fuel : Nat} (h : n + 1 ≤ fuel) : ∃ f, fuel = f + 1 ∧ n ≤ f :=
  match fuel, h with
  | f + 1, h => ⟨f, rfl, Nat.le_of_succ_le_succ h⟩

/-- The characters of a string literal: in `toList_lit rfl : "ab".toList = ['a', 'b']` unification reads `l` off the
literal.  `simp only [toList_lit rfl]` comes before a kernel evaluation of a goal with long literals: left to itself
the kernel runs `String.toList` on a literal by decoding its UTF-8 bytes, at a cost that grows faster than the square
of the length (a page of 150 characters costs more than compiling it). -/
theorem toList_lit {s : String} {l : Str} (h : s = String.ofList l) : s.toList = l :=
  h ▸ String.toList_ofList

theorem forall_digitChar {P : Char → Prop} (h : ∀ k, k < 10 → P (Char.ofNat ('0'.toNat + k))) (n : Nat) :
    P (digitChar n) := h _ (Nat.mod_lt _ (by decide))

theorem isDigit_digitChar (n : Nat) : isDigit (digitChar n) = true :=
  forall_digitChar (P := fun c => isDigit c = true) (by decide) n

theorem digitVal_digitChar (n : Nat) : digitVal (digitChar n) = n % 10 :=
  (by decide : ∀ k, k < 10 → digitVal (Char.ofNat ('0'.toNat + k)) = k) _ (Nat.mod_lt _ (by decide))

theorem all_isDigit_padNat (w n : Nat) : (padNat w n).all isDigit = true := by
  induction w generalizing n with
  | zero => rfl
  | succ w ih => rw [padNat, List.all_append, ih, List.all_cons, isDigit_digitChar]; rfl

/-! ### `splitOn` / `joinWith`: Python `s.split(c)` / `c.join(ws)` -/

theorem splitOn_cons_sep (sep : Char) (cs : Str) : splitOn sep (sep :: cs) = [] :: splitOn sep cs := by
  rw [splitOn, if_pos rfl]

theorem splitOn_cons_of_ne (sep c : Char) (cs w : Str) (ws : List Str) (h : c ≠ sep)
    (hs : splitOn sep cs = w :: ws) : splitOn sep (c :: cs) = (c :: w) :: ws := by
  rw [splitOn, if_neg h, hs]

theorem splitOn_ne_nil (sep : Char) (s : Str) : splitOn sep s ≠ [] := by
  cases s with
  | nil => simp [splitOn]
  | cons c cs =>
    unfold splitOn
    split
    · simp
    · split <;> simp

theorem splitOn_replicate_sep (sep : Char) (k : Nat) (t : Str) :
    splitOn sep (List.replicate k sep ++ t) = List.replicate k [] ++ splitOn sep t := by
  induction k with
  | zero => rfl
  | succ k ih => rw [List.replicate_succ, List.cons_append, splitOn_cons_sep, ih]; rfl

theorem splitOn_of_not_mem (sep : Char) (w : Str) (h : sep ∉ w) : splitOn sep w = [w] := by
  induction w with
  | nil => rfl
  | cons c cs ih =>
    simp only [List.mem_cons, not_or] at h
    exact splitOn_cons_of_ne _ _ _ _ _ (fun e => h.1 e.symm) (ih h.2)

theorem splitOn_append_sep (sep : Char) (w t : Str) (h : sep ∉ w) :
    splitOn sep (w ++ sep :: t) = w :: splitOn sep t := by
  induction w with
  | nil => exact splitOn_cons_sep sep t
  | cons c cs ih =>
    simp only [List.mem_cons, not_or] at h
    exact splitOn_cons_of_ne _ _ _ _ _ (fun e => h.1 e.symm) (ih h.2)

theorem joinWith_cons_cons (sep x y : Str) (ys : List Str) :
    joinWith sep (x :: y :: ys) = x ++ sep ++ joinWith sep (y :: ys) := rfl

theorem joinWith_cons_of_ne_nil (sep x : Str) (xs : List Str) (h : xs ≠ []) :
    joinWith sep (x :: xs) = x ++ sep ++ joinWith sep xs := by
  cases xs with
  | nil => exact absurd rfl h
  | cons y ys => rfl

theorem joinWith_consChar (sep : Str) (c : Char) (w : Str) (ws : List Str) :
    joinWith sep ((c :: w) :: ws) = c :: joinWith sep (w :: ws) := by
  cases ws <;> rfl

theorem joinWith_splitOn (sep : Char) (s : Str) : joinWith [sep] (splitOn sep s) = s := by
  induction s with
  | nil => rfl
  | cons c cs ih =>
    by_cases h : c = sep
    · rw [h, splitOn_cons_sep, joinWith_cons_of_ne_nil _ _ _ (splitOn_ne_nil _ _), ih]; rfl
    · obtain ⟨w, ws, hs⟩ := List.exists_cons_of_ne_nil (splitOn_ne_nil sep cs)
      rw [splitOn_cons_of_ne _ _ _ _ _ h hs, joinWith_consChar, ← hs, ih]

theorem splitOn_joinWith (sep : Char) (ws : List Str) (h : ws ≠ []) (hw : ∀ w ∈ ws, sep ∉ w) :
    splitOn sep (joinWith [sep] ws) = ws := by
  induction ws with
  | nil => exact absurd rfl h
  | cons w ws ih =>
    cases ws with
    | nil => exact splitOn_of_not_mem sep w (hw w (List.mem_cons_self ..))
    | cons y ys =>
      rw [joinWith_cons_cons, List.append_assoc, List.singleton_append,
        splitOn_append_sep _ _ _ (hw w (List.mem_cons_self ..)),
        ih (by simp) (fun w' hw' => hw w' (List.mem_cons_of_mem _ hw'))]

end ZorgVerif
