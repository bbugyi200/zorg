import ZorgVerif.Model.Zo
import ZorgVerif.Lemmas.Basic
/-! Lemmas about the `.zo` compiler model: the functions the page automaton calls (`classify`, `strip`, `mergeProps`,
`addEv`, `closeTo`, `finishItem`), then the automaton `bodyLines` itself: what each of its runs preserves and which
notes it appends, and from that the notes of a compiled page (`compileToks_notes`). -/

namespace ZorgVerif.Zo
open ZorgVerif ZorgVerif.Lex
open ZorgVerif.Query (NoteKind TagKind)
open Except (bind_eq_ok ite_error_eq_ok)

/-- `classify` tests for a todo marker only after the comment, header and `-` markers: a todo marker is none of these -/
theorem not_comment_header_dash {t : Tok} {k : NoteKind} (hk : todoKind t = some k) :
    t.name ≠ "HASH" ∧ headerLevel t = none ∧ t.name ≠ "DASH" := by
  unfold todoKind at hk
  unfold headerLevel
  split at hk <;> simp_all

/-- the note body makes a round trip through `" " ++ body.strip()` -/
theorem strip_strip (s : Str) : strip (strip s) = strip s :=
  List.strip_idem isWs s

theorem strip_cons_ws (c : Char) (t : Str) (hc : isWs c = true) : strip (c :: t) = strip t := by
  unfold strip
  rw [List.dropWhile_cons_of_pos hc]

theorem lookup_filter_key (p : Str → Bool) (k : Str) (a : List (Str × Str)) :
    (a.filter (fun kv => p kv.1)).lookup k = if p k then a.lookup k else none := by
  induction a with
  | nil => simp
  | cons x xs ih =>
    obtain ⟨x1, x2⟩ := x
    by_cases hk : k = x1
    · subst hk
      by_cases hp : p k <;> simp [hp, ih]
    · have hk' : (k == x1) = false := beq_false_of_ne hk
      by_cases hp : p x1 <;> simp [hp, List.lookup_cons, ih, hk']

theorem lookup_isSome_eq_contains (k : Str) (b : List (Str × Str)) :
    (b.lookup k).isSome = (b.map (·.1)).contains k := by
  induction b with
  | nil => rfl
  | cons x xs ih =>
    obtain ⟨x1, x2⟩ := x
    rw [List.lookup_cons, List.map_cons, List.contains_cons, ← ih]
    cases k == x1 <;> rfl

theorem mergeProps_keys (a b : List (Str × Str)) (k : Str) :
    k ∈ (mergeProps a b).map (·.1) ↔ k ∈ a.map (·.1) ∨ k ∈ b.map (·.1) := by
  unfold mergeProps
  rw [List.map_append, List.mem_append]
  by_cases hb : k ∈ b.map (·.1)
  · simp only [hb, or_true]
  · -- an entry of `a` whose key is not a key of `b` passes the filter
    simp only [hb, or_false, List.mem_map, List.mem_filter]
    constructor
    · rintro ⟨x, ⟨hx, _⟩, rfl⟩
      exact ⟨x, hx, rfl⟩
    · rintro ⟨x, hx, rfl⟩
      exact ⟨x, ⟨hx, by simpa using hb⟩, rfl⟩

theorem mergeProps_suffix (a b : List (Str × Str)) : b <:+ mergeProps a b :=
  List.suffix_append _ _

theorem addEv_ok (q : Bool) (sc : Scope) (tt tp td : Bool) (ev : Ev) :
    ∃ sc', addEv q sc tt tp td ev = .ok sc' := by
  cases ev with
  | date txt =>
    simp only [addEv]
    split
    · split <;> exact ⟨_, rfl⟩
    · exact ⟨_, rfl⟩
  | _ => exact ⟨_, rfl⟩

theorem addEv_noDate_ok (q : Bool) (sc : Scope) (tt tp : Bool) (ev : Ev) :
    ∃ sc', addEv q sc tt tp false ev = .ok sc' :=
  addEv_ok q sc tt tp false ev

/-- `addEv` changes at most one field of the scope, and that only under the field's flag -/
theorem addEv_cases {q : Bool} {sc sc' : Scope} {tt tp td : Bool} {ev : Ev}
    (h : addEv q sc tt tp td ev = .ok sc') : sc' = sc ∨
      (∃ k name, tt = true ∧ name.all isDigit = false ∧ sc' = { sc with tags := sc.tags ++ [(k, name)] }) ∨
      (∃ name, tt = true ∧ name.all isDigit = false ∧ sc' = { sc with links := sc.links ++ [name] }) ∨
      (∃ ps, tp = true ∧ sc' = { sc with props := ps }) ∨
      (∃ d, td = true ∧ sc' = { sc with date := d }) := by
  cases ev with
  | tag k name =>
    replace h := Except.ok.inj h
    split at h
    next hc =>
      simp only [Bool.and_eq_true, Bool.not_eq_true', dropAllDigits] at hc
      exact .inr (.inl ⟨k, name, hc.1, hc.2, h.symm⟩)
    next => exact .inl h.symm
  | link name =>
    replace h := Except.ok.inj h
    split at h
    next hc =>
      simp only [Bool.and_eq_true, Bool.not_eq_true', dropAllDigits] at hc
      exact .inr (.inr (.inl ⟨name, hc.1, hc.2, h.symm⟩))
    next => exact .inl h.symm
  | prop key value quoted =>
    replace h := Except.ok.inj h
    split at h
    next hc => exact .inr (.inr (.inr (.inl ⟨_, ((Bool.and_eq_true _ _).mp hc).1, h.symm⟩)))
    next => exact .inl h.symm
  | date txt =>
    simp only [addEv] at h
    split at h
    next hc =>
      split at h
      · exact .inr (.inr (.inr (.inr ⟨_, hc, (Except.ok.inj h).symm⟩)))
      · exact .inl (Except.ok.inj h).symm
    next => exact .inl (Except.ok.inj h).symm
  | id _ => exact .inl (Except.ok.inj h).symm
  | word => exact .inl (Except.ok.inj h).symm

theorem addEv_tags {q : Bool} {sc sc' : Scope} {tt tp td : Bool} {ev : Ev}
    (h : addEv q sc tt tp td ev = .ok sc') :
    ∀ p ∈ sc'.tags, p ∈ sc.tags ∨ p.2.all isDigit = false := by
  intro p hp
  rcases addEv_cases h with rfl | ⟨k, name, -, hd, rfl⟩ | ⟨_, -, -, rfl⟩ | ⟨_, -, rfl⟩ | ⟨_, -, rfl⟩
  case inr.inl =>
    rcases List.mem_append.mp hp with hp | hp
    · exact .inl hp
    · exact .inr (List.mem_singleton.mp hp ▸ hd)
  all_goals exact .inl hp

theorem addEv_links {q : Bool} {sc sc' : Scope} {tt tp td : Bool} {ev : Ev}
    (h : addEv q sc tt tp td ev = .ok sc') :
    ∀ l ∈ sc'.links, l ∈ sc.links ∨ l.all isDigit = false := by
  intro l hl
  rcases addEv_cases h with rfl | ⟨_, _, -, -, rfl⟩ | ⟨name, -, hd, rfl⟩ | ⟨_, -, rfl⟩ | ⟨_, -, rfl⟩
  case inr.inr.inl =>
    rcases List.mem_append.mp hl with hl | hl
    · exact .inl hl
    · exact .inr (List.mem_singleton.mp hl ▸ hd)
  all_goals exact .inl hl

/-- folding `addEv` over an event list (what the compiler does for a header, the file head, a note) -/
theorem foldlM_addEv_tags {q tt tp td : Bool} (evs : List Ev) :
    ∀ {sc sc' : Scope}, evs.foldlM (fun sc ev => addEv q sc tt tp td ev) sc = .ok sc' →
      ∀ p ∈ sc'.tags, p ∈ sc.tags ∨ p.2.all isDigit = false :=
  List.foldlM_ok_rel (fun (sc sc' : Scope) => ∀ p ∈ sc'.tags, p ∈ sc.tags ∨ p.2.all isDigit = false)
    (fun _ _ hp => .inl hp) (fun h1 h2 p hp => (h2 p hp).elim (h1 p) .inr) addEv_tags evs

theorem foldlM_addEv_links {q tt tp td : Bool} (evs : List Ev) :
    ∀ {sc sc' : Scope}, evs.foldlM (fun sc ev => addEv q sc tt tp td ev) sc = .ok sc' →
      ∀ l ∈ sc'.links, l ∈ sc.links ∨ l.all isDigit = false :=
  List.foldlM_ok_rel (fun (sc sc' : Scope) => ∀ l ∈ sc'.links, l ∈ sc.links ∨ l.all isDigit = false)
    (fun _ _ hl => .inl hl) (fun h1 h2 l hl => (h2 l hl).elim (h1 l) .inr) addEv_links evs

theorem foldlM_addEv_ok (q tt tp td : Bool) (evs : List Ev) :
    ∀ sc : Scope, ∃ sc', evs.foldlM (fun sc ev => addEv q sc tt tp td ev) sc = .ok sc' :=
  List.foldlM_ok (fun sc ev => addEv_ok q sc tt tp td ev) evs

/-- the levels of the open sections increase strictly from the outermost inwards: the invariant of `St.scopes`
(`bodyLines_sorted`), under which opening a header pops sections from the inside only (`closeTo_prefix`) -/
def Sorted (scopes : List (Nat × Str × Scope)) : Prop := (scopes.map (·.1)).Pairwise (· < ·)

theorem sorted_nil : Sorted [] := List.Pairwise.nil

theorem mem_closeTo (k : Nat) (s : List (Nat × Str × Scope)) (x : Nat × Str × Scope) :
    x ∈ closeTo k s ↔ x ∈ s ∧ x.1 < k := by
  simp [closeTo, List.mem_filter]

theorem closeTo_sublist (k : Nat) (s : List (Nat × Str × Scope)) : (closeTo k s).Sublist s :=
  List.filter_sublist

theorem sorted_closeTo {s : List (Nat × Str × Scope)} (k : Nat) (h : Sorted s) : Sorted (closeTo k s) :=
  List.Pairwise.sublist ((closeTo_sublist k s).map _) h

theorem closeTo_prefix {s : List (Nat × Str × Scope)} (k : Nat) (h : Sorted s) : closeTo k s <+: s := by
  induction s with
  | nil => exact List.prefix_refl _
  | cons x xs ih =>
    obtain ⟨hlt, hx⟩ := List.pairwise_cons.mp h
    by_cases hk : x.1 < k
    · simp only [closeTo, List.filter_cons, hk, decide_true, ite_true]
      exact (List.prefix_cons_inj x).mpr (ih hx)
    · have : closeTo k (x :: xs) = [] := by
        simp only [closeTo, List.filter_eq_nil_iff, List.mem_cons, decide_eq_true_eq]
        rintro y (rfl | hy)
        · exact hk
        · have hxy : x.1 < y.1 := hlt y.1 (List.mem_map_of_mem hy)
          omega
      rw [this]; exact List.nil_prefix

theorem sorted_open {s : List (Nat × Str × Scope)} (k : Nat) (title : Str) (sc : Scope) (h : Sorted s) :
    Sorted (closeTo k s ++ [(k, title, sc)]) := by
  unfold Sorted
  rw [List.map_append, List.pairwise_append]
  refine ⟨sorted_closeTo k h, List.pairwise_singleton _ _, ?_⟩
  intro a ha b hb
  obtain ⟨x, hx, rfl⟩ := List.mem_map.mp ha
  rw [List.mem_singleton.mp hb]
  exact ((mem_closeTo k s x).mp hx).2

/-- `todo_payload.priority` of a note made from an item line of the given kind / explicit priority -/
def prioOf (dp : Str) (kind : NoteKind) (prio : Option Str) : Option Str :=
  if kind == .basic then none else some (prio.getD dp)

theorem finishItem_cases {today : Date} {dp : Str} {fuel : Nat} {st st' : St} {it : Item}
    (h : finishItem today dp fuel st it = .ok st') :
    st' = st ∨ ∃ note : Note, st' = { st with notes := st.notes ++ [note], items := st.items + 1 } ∧
      note.line = it.lineNo ∧ note.kind = it.kind ∧ note.priority = prioOf dp it.kind it.priority ∧
      note.sectionPath = st.scopes.map (·.2.1) ∧ note.block = st.blockNo ∧
      note.body = strip (itemBodyText it) ∧ note.body ≠ [] := by
  unfold finishItem at h
  obtain ⟨evs1, -, h⟩ := bind_eq_ok.mp h
  obtain ⟨evs2, -, h⟩ := bind_eq_ok.mp h
  dsimp only at h
  split at h
  · exact .inl (Except.ok.inj h).symm
  · next hb =>
    obtain ⟨⟨mdate, zid, ndate⟩, -, h⟩ := bind_eq_ok.mp h
    obtain ⟨noteScope, -, h⟩ := bind_eq_ok.mp h
    obtain ⟨bps, -, h⟩ := bind_eq_ok.mp h
    exact .inr ⟨_, (Except.ok.inj h).symm, rfl, rfl, rfl, rfl, rfl, rfl, mt List.isEmpty_iff.mpr hb⟩

/-! ### the page automaton as a big-step relation

`bodyLines` is the model, and statements speak of it.  It recurses on fuel and handles a line inside one nested
`match`, so a proof that unfolds it meets the whole body at every step.  `Run` holds of the same successful runs
(`run_iff_bodyLines`), one constructor per kind of line, with the pieces of the body under names (`flush`, `openBlock`,
`parentOk`, `openHeader`).  A proof about what a run does takes a `Run` from its hypothesis by `run_of_bodyLines` and goes
by induction on it, as `run_invariant` and `bodyLines_notes` do; nothing after `run_iff_bodyLines` unfolds `bodyLines`. -/

/-- a numbered line: (line number, tokens, NL text) -/
abbrev Line := Nat × List Tok × Str

def flush (today : Date) (dp : Str) (fuel : Nat) (st : St) (cur : Option Item) : Except Err St :=
  match cur with
  | some it => finishItem today dp fuel st it
  | none => pure st

/-- a comment or item line opens a block unless one is open -/
def openBlock (st : St) : St :=
  if st.blockOpen then st else { st with blockOpen := true, blockNo := st.blockNo + 1 }

theorem openBlock_eq (st : St) :
    openBlock st = { st with blockOpen := true,
                             blockNo := if st.blockOpen then st.blockNo else st.blockNo + 1 } := by
  obtain ⟨_, _, _, blockOpen, _, _, _⟩ := st
  cases blockOpen <;> rfl

@[simp] theorem openBlock_scopes (st : St) : (openBlock st).scopes = st.scopes := by
  rw [openBlock_eq]
@[simp] theorem openBlock_file (st : St) : (openBlock st).file = st.file := by
  rw [openBlock_eq]
@[simp] theorem openBlock_notes (st : St) : (openBlock st).notes = st.notes := by
  rw [openBlock_eq]
@[simp] theorem openBlock_seenH1 (st : St) : (openBlock st).seenH1 = st.seenH1 := by
  rw [openBlock_eq]
@[simp] theorem openBlock_items (st : St) : (openBlock st).items = st.items := by
  rw [openBlock_eq]
@[simp] theorem openBlock_blockOpen (st : St) : (openBlock st).blockOpen = true := by
  rw [openBlock_eq]

/-- the nesting check made when a level-`level` header is read in state `st` -/
def parentOk (level : Nat) (st : St) : Bool :=
  if level == 1 then true
  else if level == 2 then ((closeTo level st.scopes).any (·.1 == 1)) || !st.seenH1
  else (closeTo level st.scopes).any (·.1 == level - 1)

/-- the state after a level-`level` header with scope `sc` -/
def openHeader (st : St) (level : Nat) (title : Str) (sc : Scope) : St :=
  { st with scopes := closeTo level st.scopes ++ [(level, title, sc)], blockOpen := false,
            seenH1 := st.seenH1 || level == 1 }

@[simp] theorem openHeader_scopes (st : St) (level : Nat) (title : Str) (sc : Scope) :
    (openHeader st level title sc).scopes = closeTo level st.scopes ++ [(level, title, sc)] := rfl
@[simp] theorem openHeader_file (st : St) (level : Nat) (title : Str) (sc : Scope) :
    (openHeader st level title sc).file = st.file := rfl
@[simp] theorem openHeader_notes (st : St) (level : Nat) (title : Str) (sc : Scope) :
    (openHeader st level title sc).notes = st.notes := rfl

inductive Run (today : Date) (dp : Str) (fuel : Nat) : St → Option Item → List Line → St → Prop
  | done {st cur st'} : flush today dp fuel st cur = .ok st' → Run today dp fuel st cur [] st'
  | cont {st it no ts nl atoms rest st'} : classify ts = .cont atoms → nl ≠ [] →
      Run today dp fuel st (some { it with conts := it.conts ++ [(atoms, nl)] }) rest st' →
      Run today dp fuel st (some it) ((no, ts, nl) :: rest) st'
  | blank {st cur no ts nl rest st1 st'} : classify ts = .blank →
      flush today dp fuel st cur = .ok st1 →
      Run today dp fuel { st1 with blockOpen := false } none rest st' →
      Run today dp fuel st cur ((no, ts, nl) :: rest) st'
  | comment {st cur no ts nl atoms rest st1 evs st'} : classify ts = .comment atoms → nl ≠ [] →
      flush today dp fuel st cur = .ok st1 →
      spaceAtoms fuel atoms = .ok evs →
      Run today dp fuel (openBlock st1) none rest st' →
      Run today dp fuel st cur ((no, ts, nl) :: rest) st'
  | item {st cur no ts nl kind prio atoms rest st1 st'} : classify ts = .item kind prio atoms → nl ≠ [] →
      flush today dp fuel st cur = .ok st1 →
      Run today dp fuel (openBlock st1) (some ⟨no, kind, prio, atoms, nl, []⟩) rest st' →
      Run today dp fuel st cur ((no, ts, nl) :: rest) st'
  | header {st cur no ts nl level atoms rest st1 evs sc st'} : classify ts = .header level atoms →
      flush today dp fuel st cur = .ok st1 →
      parentOk level st1 = true →
      spaceAtoms fuel atoms = .ok evs →
      evs.foldlM (fun sc ev => addEv true sc true true true ev) ({} : Scope) = .ok sc →
      Run today dp fuel (openHeader st1 level (strip (textOf atoms)) sc) none rest st' →
      Run today dp fuel st cur ((no, ts, nl) :: rest) st'

/-- what `bodyLines` does with a non-continuation line once the pending item is flushed (a copy of the
corresponding part of the model; `bodyLines_cons_eq` shows that it is the same thing) -/
def lineStep (today : Date) (dp : Str) (fuel f : Nat) (no : Nat) (nl : Str) (rest : List Line)
    (k : LineKind) (st : St) : Except Err St :=
  match k with
  | .blank => bodyLines today dp fuel f { st with blockOpen := false } none rest
  | .comment atoms =>
    if nl.isEmpty then .error (.syntax "missing newline at end of file") else
    spaceAtoms fuel atoms >>= fun _ => bodyLines today dp fuel f (openBlock st) none rest
  | .item kind prio atoms =>
    if nl.isEmpty then .error (.syntax "missing newline at end of file") else
    bodyLines today dp fuel f (openBlock st) (some ⟨no, kind, prio, atoms, nl, []⟩) rest
  | .header level atoms =>
    if !parentOk level st then .error (.syntax s!"H{level} header outside an H{level - 1} section")
    else
      spaceAtoms fuel atoms >>= fun evs =>
      evs.foldlM (fun sc ev => addEv true sc true true true ev) ({} : Scope) >>= fun sc =>
      bodyLines today dp fuel f (openHeader st level (strip (textOf atoms)) sc) none rest
  | .bad w => .error (.syntax w)
  | .cont _ => .error (.syntax "unreachable")

theorem bodyLines_cons_eq {today : Date} {dp : Str} {fuel f : Nat} {st : St} {cur : Option Item}
    {no : Nat} {ts : List Tok} {nl : Str} {rest : List Line} {k : LineKind}
    (hk : classify ts = k) (hnc : ∀ atoms, k ≠ .cont atoms) :
    bodyLines today dp fuel (f + 1) st cur ((no, ts, nl) :: rest) =
      flush today dp fuel st cur >>= lineStep today dp fuel f no nl rest k := by
  subst hk
  rw [bodyLines]
  split
  · next atoms heq => exact absurd heq (hnc atoms)
  · cases cur <;> rfl

/- In both directions of the equivalence `bind_eq_ok` and `ite_error_eq_ok` put the success of a step of
`bodyLines` into the form "`∃ …`, premise `∧ … ∧` the rest of the run succeeds": the premises are those of
the constructor of `Run` for that kind of line. -/

theorem run_of_bodyLines {today : Date} {dp : Str} {fuel : Nat} (f : Nat) :
    ∀ {st : St} {cur : Option Item} {lines : List Line} {st' : St},
      bodyLines today dp fuel f st cur lines = .ok st' → Run today dp fuel st cur lines st' := by
  induction f with
  | zero => nofun
  | succ f ih =>
    intro st cur lines st' h
    match lines with
    | [] => exact Run.done h
    | (no, ts, nl) :: rest =>
      cases hk : classify ts with
      | cont atoms =>
        rw [bodyLines] at h
        simp only [hk, ite_error_eq_ok, List.isEmpty_eq_false_iff] at h
        match cur with
        | none => cases h.2
        | some it => exact Run.cont hk h.1 (ih h.2)
      | blank =>
        rw [bodyLines_cons_eq hk nofun] at h
        obtain ⟨st1, hfl, h⟩ := bind_eq_ok.mp h
        exact Run.blank hk hfl (ih h)
      | comment atoms =>
        rw [bodyLines_cons_eq hk nofun] at h
        simp only [lineStep, bind_eq_ok, ite_error_eq_ok, List.isEmpty_eq_false_iff] at h
        obtain ⟨st1, hfl, hnl, evs, hs, h⟩ := h
        exact Run.comment hk hnl hfl hs (ih h)
      | item kind prio atoms =>
        rw [bodyLines_cons_eq hk nofun] at h
        simp only [lineStep, bind_eq_ok, ite_error_eq_ok, List.isEmpty_eq_false_iff] at h
        obtain ⟨st1, hfl, hnl, h⟩ := h
        exact Run.item hk hnl hfl (ih h)
      | header level atoms =>
        rw [bodyLines_cons_eq hk nofun] at h
        simp only [lineStep, bind_eq_ok, ite_error_eq_ok, Bool.not_eq_false'] at h
        obtain ⟨st1, hfl, hp, evs, hs, sc, hsc, h⟩ := h
        exact Run.header hk hfl hp hs hsc (ih h)
      | bad w =>
        rw [bodyLines_cons_eq hk nofun] at h
        obtain ⟨st1, -, h⟩ := bind_eq_ok.mp h
        cases h

theorem bodyLines_of_run {today : Date} {dp : Str} {fuel : Nat}
    {st : St} {cur : Option Item} {lines : List Line} {st' : St}
    (hrun : Run today dp fuel st cur lines st') :
    ∀ f, lines.length + 1 ≤ f → bodyLines today dp fuel f st cur lines = .ok st' := by
  induction hrun with (intro f hf; obtain ⟨g, rfl, hg⟩ := exists_fuel hf)
  | done hfl => exact hfl
  | cont hk hnl _ ih =>
    rw [bodyLines]
    simp only [hk, ite_error_eq_ok, List.isEmpty_eq_false_iff]
    exact ⟨hnl, ih g hg⟩
  | blank hk hfl _ ih =>
    rw [bodyLines_cons_eq hk nofun]
    exact bind_eq_ok.mpr ⟨_, hfl, ih g hg⟩
  | comment hk hnl hfl hs _ ih =>
    rw [bodyLines_cons_eq hk nofun]
    simp only [lineStep, bind_eq_ok, ite_error_eq_ok, List.isEmpty_eq_false_iff]
    exact ⟨_, hfl, hnl, _, hs, ih g hg⟩
  | item hk hnl hfl _ ih =>
    rw [bodyLines_cons_eq hk nofun]
    simp only [lineStep, bind_eq_ok, ite_error_eq_ok, List.isEmpty_eq_false_iff]
    exact ⟨_, hfl, hnl, ih g hg⟩
  | header hk hfl hp hs hsc _ ih =>
    rw [bodyLines_cons_eq hk nofun]
    simp only [lineStep, bind_eq_ok, ite_error_eq_ok, Bool.not_eq_false']
    exact ⟨_, hfl, hp, _, hs, _, hsc, ih g hg⟩

theorem run_iff_bodyLines {today : Date} {dp : Str} {fuel : Nat}
    {st : St} {cur : Option Item} {lines : List Line} {st' : St} :
    Run today dp fuel st cur lines st' ↔ ∃ f, bodyLines today dp fuel f st cur lines = .ok st' :=
  ⟨fun h => ⟨_, bodyLines_of_run h _ (Nat.le_refl _)⟩, fun ⟨f, h⟩ => run_of_bodyLines f h⟩

theorem run_invariant {today : Date} {dp : Str} {fuel : Nat} {I : St → Prop}
    (hfin : ∀ st it st1, I st → finishItem today dp fuel st it = .ok st1 → I st1)
    (hblank : ∀ st, I st → I { st with blockOpen := false })
    (hopen : ∀ st, I st → I (openBlock st))
    (hhead : ∀ st level title sc, I st → parentOk level st = true → I (openHeader st level title sc))
    {st : St} {cur : Option Item} {lines : List Line} {st' : St}
    (hrun : Run today dp fuel st cur lines st') : I st → I st' := by
  have hflush : ∀ st cur st1, I st → flush today dp fuel st cur = .ok st1 → I st1 := by
    intro st cur st1 hI h
    cases cur with
    | none => cases h; exact hI
    | some it => exact hfin _ _ _ hI h
  induction hrun with
  | done hfl => exact fun hI => hflush _ _ _ hI hfl
  | cont _ _ _ ih => exact ih
  | blank _ hfl _ ih => exact fun hI => ih (hblank _ (hflush _ _ _ hI hfl))
  | comment _ _ hfl _ _ ih => exact fun hI => ih (hopen _ (hflush _ _ _ hI hfl))
  | item _ _ hfl _ ih => exact fun hI => ih (hopen _ (hflush _ _ _ hI hfl))
  | header _ hfl hp _ _ _ ih => exact fun hI => ih (hhead _ _ _ _ (hflush _ _ _ hI hfl) hp)

/-- `note` was produced by a call of `finishItem` in a state whose scope stack is sorted (and whose
file scope is `file`) -/
def BuiltSorted (today : Date) (dp : Str) (fuel : Nat) (file : Scope) (note : Note) : Prop :=
  ∃ (st0 : St) (it : Item), Sorted st0.scopes ∧ st0.file = file ∧
    finishItem today dp fuel st0 it = .ok { st0 with notes := st0.notes ++ [note], items := st0.items + 1 }

theorem bodyLines_sorted {today : Date} {dp : Str} {fuel f : Nat}
    {st : St} {cur : Option Item} {lines : List Line} {st' : St}
    (h : bodyLines today dp fuel f st cur lines = .ok st') (hs : Sorted st.scopes) :
    Sorted st'.scopes ∧ st'.file = st.file ∧
      ∀ note ∈ st'.notes, note ∈ st.notes ∨ BuiltSorted today dp fuel st.file note := by
  refine run_invariant (I := fun s => Sorted s.scopes ∧ s.file = st.file ∧
      ∀ note ∈ s.notes, note ∈ st.notes ∨ BuiltSorted today dp fuel st.file note)
    ?_ (fun _ h => h) (fun s h => by rw [openBlock_eq]; exact h)
    (fun _ level title sc ⟨h1, h2, h3⟩ _ => ⟨sorted_open level title sc h1, h2, h3⟩)
    (run_of_bodyLines f h) ⟨hs, rfl, fun _ hn => .inl hn⟩
  intro s it s1 ⟨h1, h2, h3⟩ hf
  rcases finishItem_cases hf with rfl | ⟨note, rfl, _⟩
  · exact ⟨h1, h2, h3⟩
  · refine ⟨h1, h2, fun n hn => ?_⟩
    rcases List.mem_append.mp hn with hn | hn
    · exact h3 n hn
    · exact .inr ⟨s, it, h1, h2, List.mem_singleton.mp hn ▸ hf⟩

/-- what a note has from its item line: line number, kind and priority -/
abbrev Head := Nat × NoteKind × Option Str

def Note.head (note : Note) : Head := (note.line, note.kind, note.priority)

/-- the head of the note that the pending item will make -/
def curHead (dp : Str) (cur : Option Item) : List Head :=
  cur.toList.map fun it => (it.lineNo, it.kind, prioOf dp it.kind it.priority)

/-- the head of the note that a line will make if it is an item line -/
def lineHead (dp : Str) (no : Nat) : LineKind → Option Head
  | .item kind prio _ => some (no, kind, prioOf dp kind prio)
  | _ => none

/-- the heads of the notes that the item lines will make, in file order -/
def itemHeads (dp : Str) (lines : List Line) : List Head :=
  lines.filterMap fun l => lineHead dp l.1 (classify l.2.1)

theorem itemHeads_cons {dp : Str} {no : Nat} {ts : List Tok} {nl : Str} {rest : List Line} {k : LineKind}
    (hk : classify ts = k) :
    itemHeads dp ((no, ts, nl) :: rest) = (lineHead dp no k).toList ++ itemHeads dp rest := by
  subst hk
  unfold itemHeads
  rw [List.filterMap_cons]
  cases lineHead dp no (classify ts) <;> rfl

theorem flush_notes {today : Date} {dp : Str} {fuel : Nat} {st st1 : St} {cur : Option Item}
    (h : flush today dp fuel st cur = .ok st1) :
    ∃ added, st1.notes = st.notes ++ added ∧ (added.map Note.head).Sublist (curHead dp cur) := by
  match cur with
  | none =>
    cases h
    exact ⟨[], (List.append_nil _).symm, List.nil_sublist _⟩
  | some it =>
    rcases finishItem_cases h with rfl | ⟨note, rfl, h1, h2, h3, -⟩
    · exact ⟨[], (List.append_nil _).symm, List.nil_sublist _⟩
    · refine ⟨[note], rfl, ?_⟩
      show [(note.line, note.kind, note.priority)].Sublist _
      rw [h1, h2, h3]
      exact List.Sublist.refl _

/-- the notes of the result are the old notes followed by the notes of the pending item and of the item lines,
in this order, some of them possibly missing (an item with an empty body makes no note) -/
theorem bodyLines_notes {today : Date} {dp : Str} {fuel f : Nat}
    {st : St} {cur : Option Item} {lines : List Line} {st' : St}
    (h : bodyLines today dp fuel f st cur lines = .ok st') :
    ∃ added, st'.notes = st.notes ++ added ∧
      (added.map Note.head).Sublist (curHead dp cur ++ itemHeads dp lines) := by
  -- every line but a continuation line flushes the pending item and then leaves the notes as they are; the
  -- heads `hs` that the rest of the run may add begin with the line's own head if it is an item line
  have step : ∀ {st st1 st2 st' : St} {cur : Option Item} {hs : List Head},
      flush today dp fuel st cur = .ok st1 → st2.notes = st1.notes →
      (∃ added, st'.notes = st2.notes ++ added ∧ (added.map Note.head).Sublist hs) →
      ∃ added, st'.notes = st.notes ++ added ∧ (added.map Note.head).Sublist (curHead dp cur ++ hs) := by
    intro st st1 st2 st' cur hs hfl hn ⟨a2, h2, s2⟩
    obtain ⟨a1, h1, s1⟩ := flush_notes (dp := dp) hfl
    exact ⟨a1 ++ a2, by rw [h2, hn, h1, List.append_assoc], List.map_append ▸ s1.append s2⟩
  have hrun := run_of_bodyLines f h
  clear h
  induction hrun with
  | done hfl => exact step hfl rfl ⟨[], (List.append_nil _).symm, .slnil⟩
  | cont hk _ _ ih => rw [itemHeads_cons hk]; exact ih
  | blank hk hfl _ ih => rw [itemHeads_cons hk]; exact step hfl rfl ih
  | comment hk _ hfl _ _ ih => rw [itemHeads_cons hk]; exact step hfl (openBlock_notes _) ih
  | item hk _ hfl _ ih => rw [itemHeads_cons hk]; exact step hfl (openBlock_notes _) ih
  | header hk hfl _ _ _ _ ih => rw [itemHeads_cons hk]; exact step hfl rfl ih

/- `C01_notes_are_items` and `bodyLines_notes_source` say less than this sublist, in words of their own: how many
item lines there are (`itemCount`), and that a note has the head of the pending item (`FromCur`) or of some item line
(`FromLine`).  Each is read off the heads by the lemma that follows it. -/

def isItemKind : LineKind → Bool
  | .item .. => true
  | _ => false

/-- number of lines that `classify` maps to `.item` -/
def itemCount (lines : List Line) : Nat := (lines.filter (fun l => isItemKind (classify l.2.1))).length

theorem length_itemHeads (dp : Str) (lines : List Line) : (itemHeads dp lines).length = itemCount lines := by
  unfold itemHeads itemCount
  rw [List.length_filterMap_eq_countP, List.countP_eq_length_filter]
  congr 2
  funext l
  cases classify l.2.1 <;> rfl

def FromCur (dp : Str) (cur : Option Item) (note : Note) : Prop :=
  ∃ it, cur = some it ∧ note.line = it.lineNo ∧ note.kind = it.kind ∧
    note.priority = prioOf dp it.kind it.priority

theorem fromCur_of_mem {dp : Str} {cur : Option Item} {note : Note} (h : note.head ∈ curHead dp cur) :
    FromCur dp cur note := by
  match cur with
  | none => cases h
  | some it =>
    have h := List.mem_singleton.mp h
    simp only [Note.head, Prod.mk.injEq] at h
    exact ⟨it, rfl, h⟩

def FromLine (dp : Str) (lines : List Line) (note : Note) : Prop :=
  ∃ no ts nl kind prio atoms, (no, ts, nl) ∈ lines ∧ classify ts = .item kind prio atoms ∧
    note.line = no ∧ note.kind = kind ∧ note.priority = prioOf dp kind prio

theorem fromLine_of_mem {dp : Str} {lines : List Line} {note : Note} (h : note.head ∈ itemHeads dp lines) :
    FromLine dp lines note := by
  obtain ⟨⟨no, ts, nl⟩, hm, hh⟩ := List.mem_filterMap.mp h
  cases hk : classify ts <;>
    simp only [hk, lineHead, reduceCtorEq, Option.some.injEq, Note.head, Prod.mk.injEq] at hh
  exact ⟨no, ts, nl, _, _, _, hm, hk, hh.1.symm, hh.2.1.symm, hh.2.2.symm⟩

theorem bodyLines_notes_source {today : Date} {dp : Str} {fuel f : Nat}
    {st : St} {cur : Option Item} {lines : List Line} {st' : St}
    (h : bodyLines today dp fuel f st cur lines = .ok st') :
    ∀ note ∈ st'.notes, note ∈ st.notes ∨ FromCur dp cur note ∨ FromLine dp lines note := by
  obtain ⟨added, h1, h2⟩ := bodyLines_notes (dp := dp) h
  intro n hn
  rw [h1] at hn
  rcases List.mem_append.mp hn with hn | hn
  · exact .inl hn
  · exact .inr ((List.mem_append.mp (h2.subset (List.mem_map_of_mem hn))).imp fromCur_of_mem fromLine_of_mem)

/-- the numbered lines of a token list, as `compileToks` builds them -/
def numberedLines (toks : List Tok) : List Line :=
  (List.range (splitLines [] toks).length).zip (splitLines [] toks) |>.map (fun (i, (ts, nl)) => (i + 1, ts, nl))

theorem compileToks_cases {today : Date} {dp : Str} {toks : List Tok} {res : PageResult}
    (h : compileToks today dp toks = .ok res) :
    res.notes = [] ∨ ∃ file k f st, res.notes = st.notes ∧
      bodyLines today dp (toks.length + 2) f { file := file } none ((numberedLines toks).drop k) = .ok st := by
  unfold compileToks at h
  extract_lets +onlyGivenNames fuel lines numbered headLines at h
  split at h
  · cases h
  · obtain ⟨⟨file, _⟩, -, h⟩ := bind_eq_ok.mp h
    dsimp only at h
    split at h
    · left
      split at h
      · split at h <;> cases h
        rfl
      · cases h
    · right
      split at h
      · cases h
      · obtain ⟨st, hb, h⟩ := bind_eq_ok.mp h
        cases h
        exact ⟨file, _, _, st, rfl, hb⟩

/-- the page: its notes are, in file order, notes of item lines (an item with an empty body makes none), and
each was built by `finishItem` from a sorted scope stack -/
theorem compileToks_notes {today : Date} {dp : Str} {toks : List Tok} {res : PageResult}
    (h : compileToks today dp toks = .ok res) :
    (res.notes.map Note.head).Sublist (itemHeads dp (numberedLines toks)) ∧
    ∀ note ∈ res.notes, ∃ file, BuiltSorted today dp (toks.length + 2) file note := by
  rcases compileToks_cases h with h0 | ⟨file, k, f, st, h0, hb⟩
  · rw [h0]
    exact ⟨List.nil_sublist _, fun _ hn => nomatch hn⟩
  · obtain ⟨added, h1, h2⟩ := bodyLines_notes (dp := dp) hb
    obtain ⟨_, _, h3⟩ := bodyLines_sorted hb sorted_nil
    rw [h0]
    refine ⟨?_, fun n hn => ⟨file, (h3 n hn).resolve_left nofun⟩⟩
    rw [h1]
    exact h2.trans ((List.drop_sublist k _).filterMap _)

#print axioms mergeProps_keys
#print axioms addEv_tags
#print axioms addEv_links
#print axioms foldlM_addEv_tags
#print axioms foldlM_addEv_links
#print axioms mem_closeTo
#print axioms closeTo_prefix
#print axioms sorted_open
#print axioms finishItem_cases
#print axioms run_iff_bodyLines
#print axioms run_invariant
#print axioms bodyLines_sorted
#print axioms bodyLines_notes
#print axioms bodyLines_notes_source
#print axioms openBlock_eq
#print axioms compileToks_notes
#print axioms addEv_ok
#print axioms strip_strip

end ZorgVerif.Zo
