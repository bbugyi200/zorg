import ZorgVerif.Model.Sql
import ZorgVerif.Lemmas.Basic
/-! C03: the meaning of the emitted SQL (`Model/Sql.lean`) refines the filter specification
(`Model/Filter.lean`). -/
namespace ZorgVerif.Sql
open ZorgVerif ZorgVerif.Query ZorgVerif.Filter

def lowerOnly (s : Str) : Bool := !hasUpper s

def isUp (c : Char) : Bool := decide ('A' ≤ c ∧ c ≤ 'Z')

theorem lowerAscii_of_not_up {c : Char} (h : isUp c = false) : lowerAscii c = c :=
  if_neg (of_decide_eq_false h)

theorem char_le_iff (a b : Char) : a ≤ b ↔ a.toNat ≤ b.toNat := Iff.rfl

theorem isUp_lowerAscii (c : Char) : isUp (lowerAscii c) = false := by
  rw [lowerAscii]
  split
  · next h =>
    -- `c + 32` lies in `a..z`, above `Z`
    have e1 : 'A'.toNat = 65 := rfl
    have e2 : 'Z'.toNat = 90 := rfl
    rw [isUp, decide_eq_false_iff_not]
    simp only [char_le_iff, e1, e2] at h ⊢
    rw [Char.toNat_ofNat (.inl (by omega))]
    omega
  · next h => exact decide_eq_false h

theorem lowerOnly_cons {c : Char} {s : Str} :
    lowerOnly (c :: s) = true ↔ isUp c = false ∧ lowerOnly s = true := by
  simp only [lowerOnly, hasUpper, List.any_cons, Bool.not_or, Bool.and_eq_true, Bool.not_eq_true']; rfl

theorem lowerOnly_append {s t : Str} :
    lowerOnly (s ++ t) = true ↔ lowerOnly s = true ∧ lowerOnly t = true := by
  simp only [lowerOnly, hasUpper, List.any_append, Bool.not_or, Bool.and_eq_true]

theorem lowerOnly_lowerStr (s : Str) : lowerOnly (lowerStr s) = true := by
  induction s with
  | nil => rfl
  | cons c cs ih => exact lowerOnly_cons.2 ⟨isUp_lowerAscii c, ih⟩

theorem lowerStr_of_lowerOnly {s : Str} (h : lowerOnly s = true) : lowerStr s = s := by
  induction s with
  | nil => rfl
  | cons c cs ih =>
    have ⟨h1, h2⟩ := lowerOnly_cons.1 h
    rw [lowerStr, List.map_cons, lowerAscii_of_not_up h1, ← lowerStr, ih h2]

theorem lowerOnly_of_pyIsLower {s : Str} (h : pyIsLower s = true) : lowerOnly s = true :=
  (Bool.and_eq_true _ _ ▸ h).2

theorem lowerOnly_of_suffix {t s : Str} (h : t <:+ s) (hs : lowerOnly s = true) : lowerOnly t = true := by
  obtain ⟨u, rfl⟩ := h
  exact (lowerOnly_append.1 hs).2

/-- escaping adds only `\\` -/
theorem lowerOnly_escapeLike (v : Str) : lowerOnly (escapeLike v) = lowerOnly v := by
  rw [lowerOnly, lowerOnly, hasUpper, hasUpper, escapeLike, List.any_flatMap]
  refine congrArg (fun p => !v.any p) (funext fun c => ?_)
  split <;> exact Bool.or_false _

theorem lowerOnly_descLikeArg {v : Str} (h : lowerOnly v = true) : lowerOnly (descLikeArg v) = true :=
  lowerOnly_append.2 ⟨lowerOnly_append.2 ⟨by decide, (lowerOnly_escapeLike v).trans h⟩, by decide⟩

theorem escapeLike_nil : escapeLike [] = [] := rfl

theorem compile_nil : compile (some '\\') [] = [] := rfl

theorem compile_esc (d : Char) (rest : Str) :
    compile (some '\\') ('\\' :: d :: rest) = PTok.lit d :: compile (some '\\') rest := rfl

theorem compile_pct (rest : Str) :
    compile (some '\\') ('%' :: rest) = PTok.any :: compile (some '\\') rest := by
  rw [compile.eq_def]; simp

theorem compile_plain {c : Char} (h : ¬ (c = '\\' ∨ c = '%' ∨ c = '_')) (rest : Str) :
    compile (some '\\') (c :: rest) = PTok.lit c :: compile (some '\\') rest := by
  rw [compile.eq_def]; simp [not_or.1 h, (not_or.1 (not_or.1 h).2)]

/-- `_escape_like` on one character -/
abbrev escChar (c : Char) : Str := if c = '\\' ∨ c = '%' ∨ c = '_' then ['\\', c] else [c]

/-- the point of escaping: whatever the character, it compiles to itself as a literal -/
theorem compile_escChar (c : Char) (rest : Str) :
    compile (some '\\') (escChar c ++ rest) = .lit c :: compile (some '\\') rest := by
  unfold escChar
  split
  · exact compile_esc c rest
  · next h => exact compile_plain h rest

/-- a text in which `f c` stands for `c`, where `f c` compiles to the one token `tok c` -/
theorem compile_flatMap {f : Char → Str} {tok : Char → PTok}
    (h : ∀ c rest, compile (some '\\') (f c ++ rest) = tok c :: compile (some '\\') rest) (s rest : Str) :
    compile (some '\\') (s.flatMap f ++ rest) = s.map tok ++ compile (some '\\') rest := by
  induction s with
  | nil => rfl
  | cons c cs ih => rw [List.flatMap_cons, List.append_assoc, h, ih]; rfl

theorem compile_escapeLike_append (v rest : Str) :
    compile (some '\\') (escapeLike v ++ rest) = v.map PTok.lit ++ compile (some '\\') rest :=
  compile_flatMap compile_escChar v rest

/-- `anySuffix` is what `%` does in LIKE -/
theorem anySuffix_iff {f : Str → Bool} {s : Str} : anySuffix f s = true ↔ ∃ t, t <:+ s ∧ f t = true := by
  induction s with
  | nil => simp [anySuffix]
  | cons c cs ih => simp [anySuffix, ih, List.suffix_cons_iff, or_and_right, exists_or]

theorem anySuffix_congr {f g : Str → Bool} {s : Str} (h : ∀ t, t <:+ s → f t = g t) :
    anySuffix f s = anySuffix g s := by
  rw [Bool.eq_iff_iff, anySuffix_iff, anySuffix_iff]
  exact exists_congr fun t => and_congr_right fun ht => by rw [h t ht]

theorem anySuffix_eq_range (f : Str → Bool) (s : Str) :
    anySuffix f s = (List.range (s.length + 1)).any (fun i => f (s.drop i)) := by
  induction s with
  | nil => simp [anySuffix]
  | cons c cs ih => rw [List.any_range_drop_cons, ← ih, anySuffix]

theorem anySuffix_map (f : Str → Bool) (g : Char → Char) (s : Str) :
    anySuffix f (s.map g) = anySuffix (fun t => f (t.map g)) s := by
  induction s with
  | nil => rfl
  | cons c cs ih => rw [List.map_cons, anySuffix, ih]; rfl

theorem isInfix_eq (v b : Str) : isInfix v b = anySuffix (fun s => v.isPrefixOf s) b := by
  rw [anySuffix_eq_range]; rfl

theorem isInfix_iff {v b : Str} : isInfix v b = true ↔ v <:+: b := List.any_range_isPrefixOf_iff_infix v b

/-- `v` is a prefix of `b` up to ASCII case folding -/
def ciPrefix : Str → Str → Bool
  | [], _ => true
  | _ :: _, [] => false
  | c :: cs, d :: ds => lowerAscii c == lowerAscii d && ciPrefix cs ds

/-- `v` occurs in `b` up to ASCII case folding -/
def ciInfix (v b : Str) : Bool := anySuffix (ciPrefix v) b

theorem likeToks_lits_any (v b : Str) :
    likeToks (v.map PTok.lit ++ [PTok.any]) b = ciPrefix v b := by
  induction v generalizing b with
  | nil => exact anySuffix_iff.2 ⟨[], List.nil_suffix, rfl⟩
  | cons c cs ih =>
    cases b with
    | nil => rfl
    | cons d ds => simp only [List.map_cons, List.cons_append, likeToks, ciPrefix, ih]

theorem like_prefix (v l : Str) : like (escapeLike v ++ ['%']) (some '\\') l = ciPrefix v l := by
  rw [like, compile_escapeLike_append, compile_pct, compile_nil, likeToks_lits_any]

theorem like_descLikeArg (v b : Str) : like (descLikeArg v) (some '\\') b = ciInfix v b := by
  rw [like, descLikeArg, List.append_assoc, List.singleton_append, compile_pct, likeToks, ciInfix]
  exact congrArg (anySuffix · b) (funext (like_prefix v))

theorem ciPrefix_eq (v s : Str) : ciPrefix v s = (lowerStr v).isPrefixOf (lowerStr s) := by
  induction v generalizing s with
  | nil => rfl
  | cons c cs ih =>
    cases s with
    | nil => rfl
    | cons d ds => exact congrArg _ (ih ds)

theorem ciInfix_eq (v b : Str) : ciInfix v b = isInfix (lowerStr v) (lowerStr b) := by
  rw [isInfix_eq, lowerStr, lowerStr, anySuffix_map]
  exact congrArg (anySuffix · b) (funext (ciPrefix_eq v))

theorem desc_sensitive (v b : Str) :
    (like (descLikeArg v) (some '\\') b && isInfix v b) = isInfix v b := by
  rw [like_descLikeArg, ciInfix_eq, Bool.and_eq_right_iff_imp]
  exact fun h => isInfix_iff.2 ((isInfix_iff.1 h).map lowerAscii)

theorem desc_insensitive {v : Str} (hv : lowerOnly v = true) (b : Str) :
    like (lowerStr (descLikeArg v)) (some '\\') (lowerStr b) = isInfix v (lowerStr b) := by
  rw [lowerStr_of_lowerOnly (lowerOnly_descLikeArg hv), like_descLikeArg, ciInfix_eq,
    lowerStr_of_lowerOnly hv, lowerStr_of_lowerOnly (lowerOnly_lowerStr b)]

def globToks (g : Str) : List PTok := g.map (fun c => if c = '*' then PTok.any else PTok.lit c)

theorem compile_glob (g : Str) :
    compile (some '\\') (replaceChar '*' ['%'] (escapeLike g)) = globToks g := by
  rw [replaceChar, escapeLike, List.flatMap_assoc, ← List.append_nil (List.flatMap _ g),
    compile_flatMap (tok := fun c => if c = '*' then .any else .lit c), compile_nil, List.append_nil]
  · rfl
  · intro c rest
    by_cases hs : c = '*'
    · subst hs; exact compile_pct rest
    · have hc : (escChar c).flatMap (fun d => if d = '*' then ['%'] else [d]) = escChar c := by
        unfold escChar; split <;> simp [hs]
      rw [if_neg hs]
      exact hc ▸ compile_escChar c rest

theorem globMatch_star (p s : Str) :
    globMatch ('*' :: p) s = anySuffix (globMatch p) s := by
  rw [anySuffix_eq_range]; rfl

theorem globMatch_lit {c : Char} (hc : c ≠ '*') (p s : Str) :
    globMatch (c :: p) s = match s with | [] => false | d :: s' => c == d && globMatch p s' := by
  cases s <;> rw [globMatch] <;> exact fun h => hc (by cases h; rfl)

theorem likeToks_globToks {g : Str} (hg : lowerOnly g = true) :
    ∀ {s : Str}, lowerOnly s = true → likeToks (globToks g) s = globMatch g s := by
  induction g with
  | nil => intro s _; rfl
  | cons c p ih =>
    intro s hs
    have ⟨h1, h2⟩ := lowerOnly_cons.1 hg
    rw [globToks, List.map_cons, ← globToks]
    by_cases hc : c = '*'
    · subst hc
      rw [if_pos rfl, likeToks, globMatch_star]
      exact anySuffix_congr fun t ht => ih h2 (lowerOnly_of_suffix ht hs)
    · rw [if_neg hc, globMatch_lit hc]
      cases s with
      | nil => rfl
      | cons d ds =>
        have ⟨h3, h4⟩ := lowerOnly_cons.1 hs
        rw [likeToks, lowerAscii_of_not_up h1, lowerAscii_of_not_up h3, ih h2 h4]

theorem file_like {g path : Str} (hg : lowerOnly g = true) (hp : lowerOnly path = true) :
    like (replaceChar '*' ['%'] (escapeLike g)) (some '\\') path = globMatch g path := by
  rw [like, compile_glob, likeToks_globToks hg hp]

theorem link_like {t l : Str} (ht : lowerOnly t = true) (hl : lowerOnly l = true) :
    like (escapeLike t ++ ['#', '%']) (some '\\') l = (t ++ ['#']).isPrefixOf l := by
  have e : escapeLike t ++ ['#', '%'] = escapeLike (t ++ ['#']) ++ ['%'] := by simp [escapeLike]
  rw [e, like_prefix, ciPrefix_eq, lowerStr_of_lowerOnly (lowerOnly_append.2 ⟨ht, by decide⟩),
    lowerStr_of_lowerOnly hl]

theorem any_or {α : Type} (l : List α) (f g : α → Bool) :
    l.any (fun x => f x || g x) = (l.any f || l.any g) := by
  induction l with
  | nil => rfl
  | cons a l ih =>
    rw [List.any_cons, List.any_cons, List.any_cons, ih]
    cases f a <;> cases g a <;> cases l.any f <;> rfl

theorem any_congr_mem {α : Type} {l : List α} {f g : α → Bool} (h : ∀ x ∈ l, f x = g x) :
    l.any f = l.any g := by
  induction l with
  | nil => rfl
  | cons a l ih =>
    have ⟨h1, h2⟩ := List.forall_mem_cons.1 h
    rw [List.any_cons, List.any_cons, h1, ih h2]

theorem filter_key_of_nodup (props : List (Str × Str)) (h : (props.map (·.1)).Nodup) (key : Str) :
    props.filter (fun kv => kv.1 == key) = ((props.lookup key).map (key, ·)).toList := by
  induction props with
  | nil => rfl
  | cons kv rest ih =>
    obtain ⟨k, b⟩ := kv
    have ⟨h1, h2⟩ := List.nodup_cons.1 h
    rw [List.lookup_cons, List.filter_cons]
    by_cases e : key = k
    · subst e
      have : rest.filter (fun kv => kv.1 == key) = [] :=
        List.filter_eq_nil_iff.2 fun kv hkv hk => h1 (List.mem_map.2 ⟨kv, hkv, beq_iff_eq.1 hk⟩)
      simp [this]
    · simp only [beq_false_of_ne e, beq_false_of_ne (Ne.symm e)]
      exact ih h2

theorem apply_eq (op : PropOp) (hop : op ≠ .exists) (neg lt eq : Bool) :
    (if (neg && op == .eq) = true then !eq else cmpOp (flipOp op neg) lt eq) = (cmpOp op lt eq != neg) := by
  cases op <;> first | exact absurd rfl hop | (revert neg lt eq; decide)

theorem sqlCmp_eq (today : Date) (op : PropOp) (hop : op ≠ .exists) (neg : Bool) (vt : VType)
    (nv fv : Str) :
    sqlCmp today op neg vt nv fv = (propCmp today op vt nv fv).map (fun b => b != neg) := by
  unfold sqlCmp propCmp
  cases vt with
  | string => simp only [apply_eq op hop, Option.map_some]
  | integer =>
    simp only [apply_eq op hop]
    split <;> rfl
  | date =>
    simp only [apply_eq op hop, sqliteDate]
    cases fromDateSpec today fv with
    | error e => rfl
    | ok fd =>
      cases isLongDateSpec nv
      · rfl
      · cases Date.parseLong nv <;> rfl

theorem optAny_singleton (x : Option Bool) : optAny [x] = x := by
  rcases x with _ | _ | _ <;> rfl

theorem prop_atom (idx : Index) (today : Date) (n : NoteRow) (hn : (n.props.map (·.1)).Nodup)
    (key value : Str) (op : PropOp) (vt : VType) (neg : Bool) :
    sqlAtom idx today n (.prop key value op vt neg) = satAtom idx today n (.prop key value op vt neg) := by
  simp only [sqlAtom, satAtom]
  rw [filter_key_of_nodup n.props hn key]
  cases hop : op == .exists <;> cases n.props.lookup key
  · rfl
  · simp only [Option.map_some, Option.toList_some, List.map_cons, List.map_nil, optAny_singleton,
      sqlCmp_eq today op (ne_of_beq_false hop), sqliteDateIsNull]
    rfl
  · cases neg <;> rfl
  · cases neg <;> rfl

/-- what the index guarantees / the generator's domain: one value per property key; page paths and
link names without upper-case ASCII letters (SQLite's LIKE folds ASCII case, the spec does not) -/
def RowWF (n : NoteRow) : Prop :=
  (n.props.map (·.1)).Nodup ∧ lowerOnly n.path = true ∧ ∀ l ∈ n.links, lowerOnly l = true

def AtomWF : Atom → Prop
  | .file glob _ => lowerOnly glob = true
  | .link t _ => lowerOnly t = true
  | _ => True

theorem sqlAtom_eq_satAtom (idx : Index) (today : Date) (n : NoteRow) (hn : RowWF n) (a : Atom)
    (ha : AtomWF a) : sqlAtom idx today n a = satAtom idx today n a := by
  obtain ⟨hprops, hpath, hlinks⟩ := hn
  cases a with
  | kinds ks => rfl
  | priorities ps => rfl
  | tag k neg name => simp only [sqlAtom, satAtom, List.any_beq']
  | created r => simp only [sqlAtom, satAtom]; cases r.stop <;> rfl
  | modified r => simp only [sqlAtom, satAtom]; cases r.stop <;> rfl
  | prop key value op vt neg => exact prop_atom idx today n hprops key value op vt neg
  | desc value cs neg =>
    simp only [sqlAtom, satAtom]
    cases hs : cs || !pyIsLower value
    · -- case-insensitive only for a value that `islower()`, which then has no upper-case letter
      have hv : lowerOnly value = true :=
        lowerOnly_of_pyIsLower (by simpa using (Bool.or_eq_false_iff.1 hs).2)
      simp only [Bool.false_eq_true, if_false, desc_insensitive hv]
    · simp only [if_true, desc_sensitive]
  | file glob neg => simp only [sqlAtom, satAtom, file_like ha hpath]
  | link t neg =>
    simp only [sqlAtom, satAtom, linksTo]
    congr 2
    refine any_congr_mem fun l hl => ?_
    rw [link_like ha (hlinks l hl)]
    simp only [List.contains_eq_any_beq, List.any_flatMap, List.any_map, List.any_filter,
      Function.comp_def, any_or, Bool.or_assoc]

mutual
def AndWF : AndF → Prop
  | .mk atoms subs => (∀ a ∈ atoms, AtomWF a) ∧ SubsWF subs
def SubsWF : List (List AndF) → Prop
  | [] => True
  | o :: rest => OrWF o ∧ SubsWF rest
def OrWF : List AndF → Prop
  | [] => True
  | a :: rest => AndWF a ∧ OrWF rest
end

theorem pOk_eq (ps : List Nat) (pr : Option Nat) :
    ps.any (fun p => pr == some p) = (match pr with | some p => ps.contains p | none => false) := by
  cases pr with
  | none => simp
  | some q => exact (any_congr_mem fun x _ => by simp).trans List.any_beq

mutual
theorem sqlAnd_eq_satAnd (idx : Index) (today : Date) (n : NoteRow) (hn : RowWF n) :
    ∀ (a : AndF), AndWF a → sqlAnd idx today n a = satAnd idx today n a
  | .mk atoms subs, h => by
    rw [sqlAnd, satAnd, sqlSubs_eq_satSubs idx today n hn subs h.2,
      List.map_congr_left fun a ha => sqlAtom_eq_satAtom idx today n hn a (h.1 a ha), List.any_beq',
      pOk_eq]
    rfl
theorem sqlSubs_eq_satSubs (idx : Index) (today : Date) (n : NoteRow) (hn : RowWF n) :
    ∀ (s : List (List AndF)), SubsWF s → sqlSubs idx today n s = satSubs idx today n s
  | [], _ => rfl
  | o :: rest, h => by
    rw [sqlSubs, satSubs, C03_refines idx today n hn o h.1, sqlSubs_eq_satSubs idx today n hn rest h.2]
/-- C03: on well-formed rows and filters the SQL meaning coincides with the specification
(in particular it is open exactly when the specification is) -/
theorem C03_refines (idx : Index) (today : Date) (n : NoteRow) (hn : RowWF n) (f : List AndF)
    (hf : OrWF f) : sqlOr idx today n f = satOr idx today n f :=
  match f, hf with
  | [], _ => rfl
  | a :: rest, h => by
    rw [sqlOr, satOr, sqlAnd_eq_satAnd idx today n hn a h.1, C03_refines idx today n hn rest h.2]
    rfl
end

end ZorgVerif.Sql

#print axioms ZorgVerif.Sql.sqlAtom_eq_satAtom
#print axioms ZorgVerif.Sql.C03_refines
