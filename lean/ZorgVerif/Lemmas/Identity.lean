import ZorgVerif.Model.Zo
/-! `identity` reads the ids of the first two words only, and reading never fails.  From a `Settled` state nothing that
follows changes the result (`identity_go_settled`); `C05_written_zid_is_read` and `C11_written_stamp_is_read` instantiate
it for the words write-back puts on a first line. -/
namespace ZorgVerif.Zo
open ZorgVerif

theorem parseShort_of_isShortDate {s : Str} (h : isShortDate s = true) : ∃ dt, Date.parseShort s = some dt := by
  simp only [isShortDate, Bool.and_eq_true] at h
  exact Option.isSome_iff_exists.mp h.2

theorem parseShort_of_isZid {s : Str} (h : isZid s = true) : ∃ dt, Date.parseShort (s.take 6) = some dt := by
  simp only [isZid, Bool.and_eq_true] at h
  exact parseShort_of_isShortDate h.1.2

/-- a ZID is longer than a short date -/
theorem isShortDate_of_isZid {s : Str} (h : isZid s = true) : isShortDate s = false := by
  simp only [isZid, Bool.and_eq_true, Bool.or_eq_true, beq_iff_eq] at h
  have : (s.length == 6) = false := beq_false_of_ne (by omega)
  simp only [isShortDate, this, Bool.false_and]

theorem identity_go_ok (evs : List Ev) :
    ∀ (n w : Nat) (m : Option Date) (z : Option Str) (d : Option Date),
      ∃ r, identity.go n w m z d evs = .ok r := by
  intro n w m z d
  -- every branch of `identity.go` but three is a recursive call, so that the goal is the induction hypothesis; the
  -- three are the end of the list and the two failing `strptime` calls, which `isShortDate` / `isZid` guard
  fun_induction identity.go n w m z d evs <;> try assumption
  · exact ⟨_, rfl⟩
  · next h hp =>
    obtain ⟨dt, hdt⟩ := parseShort_of_isShortDate ((Bool.and_eq_true _ _).mp h).2
    cases hdt.symm.trans hp
  · next h hp =>
    obtain ⟨dt, hdt⟩ := parseShort_of_isZid ((Bool.and_eq_true _ _).mp h).2
    cases hdt.symm.trans hp

/-- states of `identity.go` from which no event changes the result any more: the third word has begun, or two
ids have been read, or one id that was not a modify date has been read and the note date is known -/
def Settled (n w : Nat) (m d : Option Date) : Prop :=
  3 ≤ w ∨ 2 ≤ n ∨ (1 ≤ n ∧ m = none ∧ d.isSome)

theorem Settled.mono {n w n' w' : Nat} {m d : Option Date} (h : Settled n w m d) (hn : n ≤ n') (hw : w ≤ w') :
    Settled n' w' m d :=
  h.imp (by omega) (Or.imp (by omega) (And.imp_left (by omega)))

theorem identity_go_settled (evs : List Ev) :
    ∀ (n w : Nat) (m : Option Date) (z : Option Str) (d : Option Date), Settled n w m d →
      identity.go n w m z d evs = .ok (m, z, d) := by
  induction evs with
  | nil => intros; rfl
  | cons ev rest ih =>
    intro n w m z d hs
    cases ev with
    | word => exact ih _ _ _ _ _ (hs.mono (Nat.le_refl _) (Nat.le_succ _))
    | id txt =>
      -- an id counts only as word `n + 1 = w`, and then only in position 1, or in position 2 after a modify date
      have h : n + 1 = w → (n + 1 == 1) = false ∧ (n + 1 == 2 && m.isSome) = false := by
        intro hw
        rcases hs with h | h | ⟨h, rfl, _⟩ <;> simp <;> omega
      simp only [identity.go]
      split
      · exact ih _ _ _ _ _ (hs.mono (Nat.le_succ _) (Nat.le_refl _))
      · next hw =>
        simp only [bne_iff_ne, ne_eq, Decidable.not_not] at hw
        simp only [h hw, Bool.false_and, Bool.false_or, Bool.false_eq_true, if_false]
        exact ih _ _ _ _ _ (hs.mono (Nat.le_succ _) (Nat.le_refl _))
    | date txt =>
      -- a date counts only right after the first id of the first word, and only while no note date is known
      have h : (n == 1 && w == 1 && d.isNone) = false := by
        rcases hs with h | h | ⟨_, _, h⟩
        · simp only [beq_false_of_ne (show w ≠ 1 by omega), Bool.and_false, Bool.false_and]
        · simp only [beq_false_of_ne (show n ≠ 1 by omega), Bool.false_and]
        · obtain ⟨dt, rfl⟩ := Option.isSome_iff_exists.mp h
          exact Bool.and_false _
      simp only [identity.go, h, Bool.false_eq_true, if_false]
      exact ih _ _ _ _ _ hs
    | _ => exact ih _ _ _ _ _ hs

def wordCount (evs : List Ev) : Nat := (evs.filter (· == .word)).length

@[simp] theorem wordCount_nil : wordCount [] = 0 := rfl

theorem wordCount_cons (ev : Ev) (evs : List Ev) :
    wordCount (ev :: evs) = wordCount evs + if ev = .word then 1 else 0 := by
  cases ev <;> rfl

theorem identity_go_append (post : List Ev) (pre : List Ev) :
    ∀ (n w : Nat) (m : Option Date) (z : Option Str) (d : Option Date), 3 ≤ w + wordCount pre →
      identity.go n w m z d (pre ++ post) = identity.go n w m z d pre := by
  induction pre with
  | nil => exact fun n w m z d hw => identity_go_settled post n w m z d (.inl hw)
  | cons ev rest ih =>
    intro n w m z d hw
    rw [wordCount_cons] at hw
    cases ev with
    | word => exact ih _ _ _ _ _ (by simp only [if_true] at hw; omega)
    | _ =>
      simp only [reduceCtorEq, if_false, Nat.add_zero] at hw
      simp only [List.cons_append, identity.go, ih _ _ _ _ _ hw]

#print axioms identity_go_settled

end ZorgVerif.Zo
