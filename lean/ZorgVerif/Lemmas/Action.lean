import ZorgVerif.Model.ActionSpec
import ZorgVerif.Lemmas.Basic
/-! Lemmas about the model of `run_action_open`: the scan equals its declarative reading, and the line `- solo x`
offers what the word `x` offers; `openLink` and `respond` get their equations, one per branch of the dispatch, and
every line they answer is a protocol line. -/
namespace ZorgVerif.Action
open ZorgVerif

theorem isPrefixSymbol_length (w : Str) (h : isPrefixSymbol w = true) : w.length = 1 := by
  simp [isPrefixSymbol] at h
  rcases h with h | h | h | h | h | h <;> simp [← h]

theorem isPriority_length (w : Str) (h : isPriority w = true) : w.length = 2 := by
  unfold isPriority at h
  split at h
  · rfl
  · simp at h

theorem isSixDigits_length (w : Str) (h : isSixDigits w = true) : w.length = 6 := by
  simp [isSixDigits] at h
  exact h.1

theorem isZid_length (vd : Str → Bool) (w : Str) (h : isZid vd w = true) : w.length = 9 ∨ w.length = 10 := by
  simp [isZid] at h
  exact h.1.1.1

theorem isZid_head_digit (vd : Str → Bool) (z : Str) (hz : isZid vd z = true) :
    ∃ c rest, z = c :: rest ∧ isDigit c = true := by
  cases z with
  | nil => simp [isZid] at hz
  | cons c rest =>
    refine ⟨c, rest, rfl, ?_⟩
    simp only [isZid, isSixDigits, Bool.and_eq_true] at hz
    have := hz.1.1.2.2
    rw [List.take_succ_cons, List.all_cons] at this
    simp only [Bool.and_eq_true] at this
    exact this.1

theorem isPrefixWord_of_isZid (vd : Str → Bool) (w : Str) (h : isZid vd w = true) : isPrefixWord vd w = false := by
  have hl := isZid_length vd w h
  cases hp : isPrefixWord vd w with
  | false => rfl
  | true =>
    simp only [isPrefixWord, Bool.or_eq_true, Bool.and_eq_true] at hp
    rcases hp with (hp | hp) | hp
    · have := isPrefixSymbol_length w hp; omega
    · have := isPriority_length w hp; omega
    · have := isSixDigits_length w hp.1; omega

theorem scan_nil (vd : Str → Bool) (isZoq : Bool) (i : Nat) (found : Bool) :
    scan vd isZoq i found [] = [] := rfl

theorem scan_cons (vd : Str → Bool) (isZoq : Bool) (i : Nat) (found : Bool) (w : Str) (rest : List Str) :
    scan vd isZoq i found (w :: rest) =
      if isLinkWord w then .word w :: scan vd isZoq (i + 1) true rest
      else if isZid vd (stripSet ['[', ']'] w) && (found || isZoq || i == 0 || !isZid vd w) then
        .zid (stripSet ['[', ']'] w) :: scan vd isZoq (i + 1) true rest
      else if isZid vd w then scan vd isZoq (i + 1) true rest
      else if !found && !isPrefixWord vd w then scan vd isZoq (i + 1) true rest
      else scan vd isZoq (i + 1) found rest := by
  rw [scan]
  simp only [isLinkWord, isPrefixWord, Bool.not_or, Bool.and_assoc]

/-- the step of the scan in the vocabulary of `specTargets` -/
theorem scan_step (vd : Str → Bool) (isZoq : Bool) (i : Nat) (found : Bool) (w : Str) (rest : List Str) :
    scan vd isZoq i found (w :: rest) =
      match wordTarget vd w with
      | some t => if !found && isPrimary vd isZoq i w then scan vd isZoq (i + 1) true rest
                  else t :: scan vd isZoq (i + 1) true rest
      | none => scan vd isZoq (i + 1) (found || !isPrefixWord vd w) rest := by
  rw [scan_cons, wordTarget, isPrimary]
  cases isLinkWord w
  · cases isZid vd (stripSet ['[', ']'] w)
    · cases h3 : isZid vd w
      · cases found <;> cases isPrefixWord vd w <;> rfl
      · simp [isPrefixWord_of_isZid vd w h3]
    · cases isZid vd w
      · simp
      · cases found <;> cases isZoq <;> by_cases h4 : i = 0 <;> simp [h4]
  · simp

theorem scan_found (vd : Str → Bool) (isZoq : Bool) (i : Nat) (ws : List Str) :
    scan vd isZoq i true ws = ws.filterMap (wordTarget vd) := by
  induction ws generalizing i with
  | nil => rfl
  | cons w rest ih =>
    rw [scan_step, List.filterMap_cons]
    cases wordTarget vd w <;> simp [ih]

theorem scan_eq_spec (vd : Str → Bool) (isZoq : Bool) (i : Nat) (ws : List Str) :
    scan vd isZoq i false ws = specTargets vd isZoq i ws := by
  induction ws generalizing i with
  | nil => rfl
  | cons w rest ih =>
    rw [scan_step, specTargets]
    cases wordTarget vd w with
    | some t => simp [scan_found]
    | none => cases isPrefixWord vd w <;> simp [scan_found, ih]

theorem targets_eq_spec (vd : Str → Bool) (isZoq : Bool) (line : Str) :
    targets vd isZoq line = specTargets vd isZoq 0 ((splitOn ' ' line).map (stripSet "(),.?!;:".toList)) := by
  rw [targets, scan_eq_spec]

theorem wordTarget_text_word (vd : Str → Bool) (w : Str) (h : wordTarget vd w = some (.word w)) :
    isLinkWord w = true := by
  unfold wordTarget at h
  split at h
  · assumption
  · split at h <;> cases h

theorem wordTarget_zid (vd : Str → Bool) (w z : Str) (h : wordTarget vd w = some (.zid z)) :
    isLinkWord w = false ∧ z = stripSet ['[', ']'] w ∧ isZid vd z = true := by
  unfold wordTarget at h
  split at h
  · cases h
  · next h1 =>
    split at h
    · next h2 => cases h; exact ⟨by simpa using h1, rfl, h2⟩
    · cases h

theorem wordTarget_of_short (vd : Str → Bool) {w : Str} (hl : isLinkWord w = false)
    (hs : (stripSet ['[', ']'] w).length < 9) : wordTarget vd w = none := by
  rw [wordTarget, if_neg (ne_true_of_eq_false hl), if_neg]
  intro hz
  have := isZid_length vd _ hz
  omega

theorem solo_line (vd : Str → Bool) (isZoq : Bool) (x : Str) (hsp : ' ' ∉ x)
    (hst : stripSet "(),.?!;:".toList x = x) :
    targets vd isZoq ("- solo ".toList ++ x) = [x].filterMap (wordTarget vd) := by
  have e : "- solo ".toList ++ x = "-".toList ++ ' ' :: ("solo".toList ++ ' ' :: x) := by simp
  have hd : stripSet "(),.?!;:".toList "-".toList = "-".toList := by decide
  have hs : stripSet "(),.?!;:".toList "solo".toList = "solo".toList := by decide
  -- `-` is a prefix word, `solo` is the first word of the body and offers nothing
  have h1 : isPrefixWord vd "-".toList = true := rfl
  have h2 : isPrefixWord vd "solo".toList = false := rfl
  rw [targets_eq_spec, e, splitOn_append_sep _ _ _ (by decide), splitOn_append_sep _ _ _ (by decide),
    splitOn_of_not_mem _ _ hsp]
  simp only [List.map_cons, List.map_nil, hd, hs, hst, specTargets,
    wordTarget_of_short vd (w := "-".toList) (by decide) (by decide),
    wordTarget_of_short vd (w := "solo".toList) (by decide) (by decide), h1, h2, if_true, Bool.false_eq_true, if_false]

theorem hasSub_cons (pat : Str) (c : Char) (s : Str) :
    hasSub pat (c :: s) = (pat.isPrefixOf (c :: s) || hasSub pat s) :=
  List.any_range_drop_cons (fun t => pat.isPrefixOf t) c s

theorem hasSub_nil (pat : Str) : hasSub pat [] = pat.isPrefixOf [] := by
  simp [hasSub]

theorem hasSub_iff_infix (pat s : Str) : hasSub pat s = true ↔ pat <:+: s :=
  List.any_range_isPrefixOf_iff_infix pat s

theorem hasSub_of_not_mem {pat s : Str} {c : Char} (hc : c ∈ pat) (hs : c ∉ s) : hasSub pat s = false :=
  Bool.eq_false_iff.mpr fun h => hs (((hasSub_iff_infix pat s).mp h).mem hc)

theorem wrapped (l m r : Str) : (l.isPrefixOf (l ++ m ++ r) && r.isSuffixOf (l ++ m ++ r)) = true := by
  rw [Bool.and_eq_true, List.isPrefixOf_iff_prefix, List.isSuffixOf_iff_suffix, List.append_assoc]
  exact ⟨List.prefix_append .., List.append_assoc .. ▸ List.suffix_append ..⟩

theorem stripSet_idem (set : List Char) (s : Str) : stripSet set (stripSet set s) = stripSet set s :=
  List.strip_idem _ s

theorem dedupSorted_go_mem (x y : Str) (l : List Str) : y ∈ dedupSorted.go x l ↔ y = x ∨ y ∈ l := by
  induction l with
  | nil => simp [dedupSorted.go]
  | cons z zs ih =>
    rw [dedupSorted.go]
    split
    · next h =>
      have : x = z := by simpa using h
      subst this
      simp
    · split
      · simp
      · rw [List.mem_cons, ih, List.mem_cons]
        exact or_left_comm

def pageForm (w : Str) : Bool := "[[".toList.isPrefixOf w && "]]".toList.isSuffixOf w
def localForm (w : Str) : Bool := hasSub "[^".toList w && hasSub "]".toList w
def idForm (w : Str) : Bool := "[#".toList.isPrefixOf w && "]".toList.isSuffixOf w
def ridForm (w : Str) : Bool := "[@".toList.isPrefixOf w && "]".toList.isSuffixOf w

theorem localForm_of_not_mem {w : Str} (h : '^' ∉ w) : localForm w = false := by
  rw [localForm, hasSub_of_not_mem (c := '^') (by simp) h, Bool.false_and]

theorem forms_of_head_ne {w : Str} (h : w.head? ≠ some '[') :
    pageForm w = false ∧ idForm w = false ∧ ridForm w = false := by
  cases w with
  | nil => decide
  | cons c w =>
    have : '[' ≠ c := fun e => h (e ▸ rfl)
    simp [pageForm, idForm, ridForm, List.isPrefixOf, this]

section
variable (zdir : Str) (lk : Lookup) (w : Str)

theorem openLink_text (t : Target) : openLink zdir lk t = openLink zdir lk (.word t.text) := rfl

theorem openLink_page (h1 : pageForm w = true) :
    openLink zdir lk (.word w) = match splitOn '#' w with
      | [p] => ⟨["EDIT ".toList ++ fullPath zdir ((p.drop 2).take (p.length - 4))], 0⟩
      | p :: a :: _ => ⟨["EDIT ".toList ++ fullPath zdir (p.drop 2), "SEARCH LID::".toList ++ a.take (a.length - 2)], 0⟩
      | [] => ⟨[], 0⟩ :=
  if_pos h1

theorem openLink_local (h1 : pageForm w = false) (h2 : localForm w = true) :
    openLink zdir lk (.word w) = ⟨["SEARCH LID::".toList ++ (w.drop 2).take (w.length - 3) ++ searchEnd], 0⟩ :=
  (if_neg (ne_true_of_eq_false h1)).trans (if_pos h2)

theorem openLink_id {id : Str} (h1 : pageForm w = false) (h2 : localForm w = false) (h3 : idForm w = true)
    (hid : (w.drop 2).take (w.length - 3) = id) :
    openLink zdir lk (.word w) = match dedupSorted (lk.idPages id) with
      | [] => ⟨["ECHO No notes found with the ID::".toList ++ id ++ " property".toList], 1⟩
      | [page] => ⟨["EDIT ".toList ++ fullPath zdir page, "SEARCH ID::".toList ++ id ++ searchEnd], 0⟩
      | pages => ⟨["ECHO Multiple pages found containing notes with the ID::".toList ++ id ++ " property: ".toList ++
          joinWith [' '] pages], 1⟩ :=
  hid ▸ (if_neg (ne_true_of_eq_false h1)).trans ((if_neg (ne_true_of_eq_false h2)).trans (if_pos h3))

theorem openLink_rid {rid : Str} (h1 : pageForm w = false) (h2 : localForm w = false) (h3 : idForm w = false)
    (h4 : ridForm w = true) (hid : (w.drop 2).take (w.length - 3) = rid) :
    openLink zdir lk (.word w) = match lk.ridPages rid with
      | [] => ⟨["ECHO No notes found with the RID::".toList ++ rid ++ " property".toList], 1⟩
      | [page] => ⟨["EDIT ".toList ++ fullPath zdir page, "SEARCH RID::".toList ++ rid ++ searchEnd], 0⟩
      | pages => ⟨["ECHO Multiple notes found the with the RID::".toList ++ rid ++ " property: ".toList ++
          joinWith [' '] (dedupSorted pages)], 1⟩ :=
  hid ▸ (if_neg (ne_true_of_eq_false h1)).trans ((if_neg (ne_true_of_eq_false h2)).trans
    ((if_neg (ne_true_of_eq_false h3)).trans (if_pos h4)))

theorem openLink_other (h1 : pageForm w = false) (h2 : localForm w = false) (h3 : idForm w = false)
    (h4 : ridForm w = false) :
    openLink zdir lk (.word w) = match lk.zidPage w with
      | some page => ⟨["EDIT ".toList ++ fullPath zdir page, "SEARCH \\s\\zs".toList ++ w], 0⟩
      | none => ⟨[], 1⟩ :=
  (if_neg (ne_true_of_eq_false h1)).trans ((if_neg (ne_true_of_eq_false h2)).trans
    ((if_neg (ne_true_of_eq_false h3)).trans (if_neg (ne_true_of_eq_false h4))))

end

/-- Every line begins with a literal that begins with one of the four protocol words. -/
theorem openLink_protocol (zdir : Str) (lk : Lookup) (t : Target) :
    (openLink zdir lk t).lines.all isProtocol = true := by
  rw [openLink_text]
  generalize t.text = w
  cases h1 : pageForm w
  case true =>
    rw [openLink_page zdir lk w h1]
    split <;> simp only [List.all_cons, List.all_nil, isProtocol, toList_lit rfl] <;> rfl
  cases h2 : localForm w
  case true =>
    rw [openLink_local zdir lk w h1 h2]
    simp only [List.all_cons, List.all_nil, isProtocol, toList_lit rfl] <;> rfl
  cases h3 : idForm w
  case true =>
    rw [openLink_id zdir lk w h1 h2 h3 rfl]
    split <;> simp only [List.all_cons, List.all_nil, isProtocol, toList_lit rfl] <;> rfl
  cases h4 : ridForm w
  case true =>
    rw [openLink_rid zdir lk w h1 h2 h3 h4 rfl]
    split <;> simp only [List.all_cons, List.all_nil, isProtocol, toList_lit rfl] <;> rfl
  rw [openLink_other zdir lk w h1 h2 h3 h4]
  split <;> simp only [List.all_cons, List.all_nil, isProtocol, toList_lit rfl] <;> rfl

theorem respond_some (zdir : Str) (lk : Lookup) {ts : List Target} (h : 2 ≤ ts.length) (n : Nat) (k : Int) :
    respond zdir lk ts n (some k) =
      match (if k = -1 then ts.getLast? else if 1 ≤ k then ts[(k - 1).toNat]? else none) with
      | some t => openLink zdir lk t
      | none => ⟨[], 1⟩ := by
  match ts, h with
  | a :: b :: rest, _ =>
    by_cases hk : k = -1
    · subst hk; rfl
    · rw [if_neg hk]
      simp only [respond]
      split <;> rfl

theorem respond_protocol (zdir : Str) (lk : Lookup) (ts : List Target) (n : Nat) (opt : Option Int) :
    (respond zdir lk ts n opt).lines.all isProtocol = true := by
  match ts, opt with
  | [], _ => simp only [respond, List.all_cons, List.all_nil, isProtocol, toList_lit rfl] <;> rfl
  | [t], _ => exact openLink_protocol zdir lk t
  | _ :: _ :: _, none => simp only [respond, List.all_cons, List.all_nil, isProtocol, toList_lit rfl] <;> rfl
  | a :: b :: rest, some k =>
    rw [respond_some zdir lk (by simp) n k]
    split
    · exact openLink_protocol zdir lk _
    · rfl

end ZorgVerif.Action
