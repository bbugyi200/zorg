import ZorgVerif.Model.Rename
/-! The two chained `str.replace` passes of `file rename` compute the one-pass `spec`.  `go` is `str.replace` (`Lemmas/Move.lean` uses
its lemmas too: `_add_hidden_metadata` is a `str.replace`); the two link patterns are one pattern `link a x` with the closing
character a variable, so that every fact about the passes is stated once. -/
namespace ZorgVerif.Rename
open ZorgVerif

theorem go_nil (old new : Str) (k : Nat) : go old new k [] = [] := by
  cases k <;> rfl

theorem go_succ_cons (old new : Str) (k : Nat) (c : Char) (cs : Str) :
    go old new (k + 1) (c :: cs) = go old new k cs := rfl

theorem go_zero_cons (old new : Str) (c : Char) (cs : Str) :
    go old new 0 (c :: cs) =
      if old.isPrefixOf (c :: cs) then new ++ go old new (old.length - 1) cs
      else c :: go old new 0 cs := rfl

theorem go_skip (old new : Str) (u v : Str) : go old new u.length (u ++ v) = go old new 0 v := by
  induction u with
  | nil => rfl
  | cons c u ih => exact ih

theorem go_cons_of_not_prefix (old new : Str) (c : Char) (cs : Str) (h : ¬ old <+: c :: cs) :
    go old new 0 (c :: cs) = c :: go old new 0 cs := by
  rw [go_zero_cons, if_neg (mt List.isPrefixOf_iff_prefix.1 h)]

theorem go_cons_of_prefix (old new : Str) (c : Char) (cs : Str) (h : old <+: c :: cs) :
    go old new 0 (c :: cs) = new ++ go old new (old.length - 1) cs := by
  rw [go_zero_cons, if_pos (List.isPrefixOf_iff_prefix.2 h)]

theorem go_match (o : Char) (os new v : Str) :
    go (o :: os) new 0 ((o :: os) ++ v) = new ++ go (o :: os) new 0 v := by
  rw [List.cons_append, go_cons_of_prefix _ _ _ _ ⟨v, rfl⟩]
  exact congrArg _ (go_skip _ _ os v)

theorem go_cons_ne (o : Char) (os new : Str) (c : Char) (cs : Str) (h : c ≠ o) :
    go (o :: os) new 0 (c :: cs) = c :: go (o :: os) new 0 cs :=
  go_cons_of_not_prefix _ _ _ _ fun ⟨_, ht⟩ => h (List.cons.inj ht).1.symm

theorem go_append_ne (o : Char) (os new : Str) (u w : Str) (hu : ∀ c ∈ u, c ≠ o) :
    go (o :: os) new 0 (u ++ w) = u ++ go (o :: os) new 0 w := by
  induction u with
  | nil => rfl
  | cons c u ih =>
    have ⟨hc, hu⟩ := List.forall_mem_cons.1 hu
    rw [List.cons_append, go_cons_ne _ _ _ _ _ hc, ih hu, List.cons_append]

theorem go_of_not_infix (old new s : Str) (h : ¬ old <:+: s) : go old new 0 s = s := by
  induction s with
  | nil => rfl
  | cons c cs ih =>
    rw [go_cons_of_not_prefix _ _ _ _ fun hp => h hp.isInfix, ih fun hi => h (List.infix_cons hi)]

theorem go_of_infix (old new : Str) (hne : old ≠ []) (s : Str) (h : old <:+: s) :
    ∃ pre post, s = pre ++ old ++ post ∧ go old new 0 s = pre ++ new ++ go old new 0 post := by
  induction s with
  | nil => exact absurd (List.infix_nil.mp h) hne
  | cons c cs ih =>
    by_cases hp : old <+: c :: cs
    · obtain ⟨post, hpost⟩ := hp
      refine ⟨[], post, hpost.symm, ?_⟩
      rw [← hpost]
      cases old with
      | nil => exact absurd rfl hne
      | cons o os => exact go_match o os new post
    · obtain ⟨pre, post, hs, he⟩ := ih ((List.infix_cons_iff.mp h).resolve_left hp)
      exact ⟨c :: pre, post, by rw [hs]; rfl, by rw [go_cons_of_not_prefix _ _ _ _ hp, he]; rfl⟩

theorem occursIn_iff_infix (p s : Str) : occursIn p s = true ↔ p <:+: s := by
  induction s with
  | nil => rw [occursIn, List.isEmpty_iff, List.infix_nil]
  | cons c cs ih =>
    rw [occursIn, Bool.or_eq_true, ih, List.isPrefixOf_iff_prefix, List.infix_cons_iff]

/-- the guard of `run_file_rename` is sound: where it finds no occurrence the replacement changes nothing -/
theorem go_no_occurrence (old new s : Str) (h : occursIn old s = false) : go old new 0 s = s :=
  go_of_not_infix old new s fun hi => Bool.false_ne_true (h ▸ (occursIn_iff_infix old s).2 hi)

theorem prefix_of_prefix_go (old new : Str) (w : Str) (hw : ∀ c ∈ w, c ≠ '[') (x : Str)
    (h : w <+: go old ('[' :: new) 0 x) : w <+: x := by
  induction w generalizing x with
  | nil => exact List.nil_prefix
  | cons e w ih =>
    have ⟨he, hw⟩ := List.forall_mem_cons.1 hw
    cases x with
    | nil => rw [go_nil] at h; cases List.prefix_nil.1 h
    | cons f fs =>
      by_cases hp : old <+: f :: fs
      · rw [go_cons_of_prefix _ _ _ _ hp, List.cons_append, List.cons_prefix_cons] at h
        exact absurd h.1 he
      · rw [go_cons_of_not_prefix _ _ _ _ hp, List.cons_prefix_cons] at h
        exact List.cons_prefix_cons.2 ⟨h.1, ih hw fs h.2⟩

def Safe (a : Str) : Prop := ∀ c ∈ a, c ≠ '[' ∧ c ≠ ']' ∧ c ≠ '#'

theorem safe_of_linkSafe (a : Str) (h : linkSafe a = true) : Safe a := by
  intro c hc
  simp only [linkSafe, Bool.and_eq_true, Bool.not_eq_true', List.contains_eq_mem,
    decide_eq_false_iff_not] at h
  exact ⟨fun e => h.1.1 (e ▸ hc), fun e => h.1.2 (e ▸ hc), fun e => h.2 (e ▸ hc)⟩

theorem Safe.tail {c : Char} {a : Str} (h : Safe (c :: a)) : Safe a :=
  fun d hd => h d (List.mem_cons_of_mem _ hd)

theorem Safe.head {c : Char} {a : Str} (h : Safe (c :: a)) : c ≠ '[' ∧ c ≠ ']' ∧ c ≠ '#' :=
  h c List.mem_cons_self

theorem Safe.no_bracket {a : Str} (h : Safe a) : ∀ c ∈ a, c ≠ '[' := fun c hc => (h c hc).1

/-- `[[a` followed by `x`: `linkClose a` and `linkHash a` are the instances `]` and `#` -/
abbrev link (a : Str) (x : Char) : Str := '[' :: '[' :: (a ++ [x])

/-- the characters that end a link target -/
def Closer (x : Char) : Prop := x = ']' ∨ x = '#'

theorem Closer.ne_bracket {x : Char} (h : Closer x) : x ≠ '[' := by
  rcases h with rfl | rfl <;> decide

theorem Safe.ne_closer {c : Char} {a : Str} (h : Safe (c :: a)) {x : Char} (hx : Closer x) : c ≠ x := by
  rcases hx with rfl | rfl
  · exact h.head.2.1
  · exact h.head.2.2

theorem link_append (a : Str) (x : Char) (v : Str) : link a x ++ v = '[' :: '[' :: (a ++ x :: v) := by
  simp

/-- a safe name ends at the first closer, so names followed by different closers do not line up -/
theorem no_closer_prefix {a b : Str} (ha : Safe a) (hb : Safe b) {x y : Char} (hx : Closer x)
    (hy : Closer y) (hxy : x ≠ y) (r X : Str) : ¬ (a ++ x :: r) <+: (b ++ y :: X) := by
  induction a generalizing b with
  | nil =>
    cases b with
    | nil => exact fun h => hxy (List.cons_prefix_cons.1 h).1
    | cons e b => exact fun h => hb.ne_closer hx (List.cons_prefix_cons.1 h).1.symm
  | cons e a ih =>
    cases b with
    | nil => exact fun h => ha.ne_closer hy (List.cons_prefix_cons.1 h).1
    | cons f b => exact fun h => ih ha.tail hb.tail (List.cons_prefix_cons.1 h).2

theorem ne_bracket_cons {b : Str} (hb : Safe b) {x : Char} (hx : x ≠ '[') (X r : Str) :
    b ++ x :: X ≠ '[' :: r := by
  cases b with
  | nil => exact fun h => hx (List.cons.inj h).1
  | cons e b => exact fun h => hb.head.1 (List.cons.inj h).1

/-- the pass that looks for `[[a x` copies an occurrence of `[[b y` with the other closer: the second
pass copies an inserted `[[b]`, the first an occurrence of `[[a#` -/
theorem go_copies_link {a b : Str} (ha : Safe a) (hb : Safe b) {x y : Char} (hx : Closer x)
    (hy : Closer y) (hxy : x ≠ y) (new X : Str) :
    go (link a x) new 0 (link b y ++ X) = link b y ++ go (link a x) new 0 X := by
  rw [link_append, link_append, go_cons_of_not_prefix, go_cons_of_not_prefix,
    go_append_ne _ _ _ _ _ hb.no_bracket, go_cons_ne _ _ _ _ _ hy.ne_bracket]
  · exact fun ⟨t, ht⟩ => ne_bracket_cons hb hy.ne_bracket X _ (List.cons.inj ht).2.symm
  · exact fun h => no_closer_prefix ha hb hx hy hxy [] X
      (List.cons_prefix_cons.1 (List.cons_prefix_cons.1 h).2).2

/-- the first pass creates no `[[a#`: where it rewrites, its output goes on with `[b]`, and `a#` has no `[`; where it
copies, the occurrence is read off the input (`prefix_of_prefix_go`) -/
theorem hash_prefix_of_go1 {a : Str} (ha : Safe a) (b : Str) (c : Char) (cs : Str)
    (h : link a '#' <+: c :: go (link a ']') (link b ']') 0 cs) : link a '#' <+: c :: cs := by
  rw [List.cons_prefix_cons] at h ⊢
  refine ⟨h.1, ?_⟩
  cases cs with
  | nil => rw [go_nil] at h; cases List.prefix_nil.1 h.2
  | cons d ds =>
    by_cases hp : link a ']' <+: d :: ds
    · rw [go_cons_of_prefix _ _ _ _ hp] at h
      obtain ⟨t, ht⟩ := (List.cons_prefix_cons.1 h.2).2
      rw [List.append_assoc] at ht
      exact absurd ht (ne_bracket_cons ha (by decide) _ _)
    · rw [go_cons_of_not_prefix _ _ _ _ hp, List.cons_prefix_cons] at h
      have hw : ∀ x ∈ a ++ ['#'], x ≠ '[' := fun x hx =>
        (List.mem_append.1 hx).elim (ha.no_bracket x) fun hx => List.mem_singleton.1 hx ▸ by decide
      exact List.cons_prefix_cons.2 ⟨h.2.1, prefix_of_prefix_go _ _ _ hw ds h.2.2⟩

theorem spec_nil (a b : Str) (k : Nat) : spec a b k [] = [] := by
  cases k <;> rfl

theorem spec_succ_cons (a b : Str) (k : Nat) (c : Char) (cs : Str) :
    spec a b (k + 1) (c :: cs) = spec a b k cs := rfl

theorem spec_zero_cons (a b : Str) (c : Char) (cs : Str) :
    spec a b 0 (c :: cs) =
      if isLinkAt a (c :: cs) then '[' :: '[' :: b ++ spec a b (a.length + 1) cs
      else c :: spec a b 0 cs := rfl

theorem spec_skip (a b : Str) (u v : Str) : spec a b u.length (u ++ v) = spec a b 0 v := by
  induction u with
  | nil => rfl
  | cons c u ih => exact ih

theorem isLinkAt_iff (a s : Str) : isLinkAt a s = true ↔ link a ']' <+: s ∨ link a '#' <+: s := by
  simp only [isLinkAt, Bool.or_eq_true, List.isPrefixOf_iff_prefix]; rfl

theorem spec_cons_of_not_link (a b : Str) (c : Char) (cs : Str) (h : isLinkAt a (c :: cs) = false) :
    spec a b 0 (c :: cs) = c :: spec a b 0 cs := by
  rw [spec_zero_cons, h]; rfl

theorem spec_cons_ne (a b : Str) (c : Char) (cs : Str) (h : c ≠ '[') :
    spec a b 0 (c :: cs) = c :: spec a b 0 cs := by
  refine spec_cons_of_not_link a b c cs ?_
  rw [← Bool.not_eq_true, isLinkAt_iff]
  rintro (h' | h') <;> exact h (List.cons_prefix_cons.1 h').1.symm

theorem spec_append_ne (a b u v : Str) (hu : ∀ c ∈ u, c ≠ '[') :
    spec a b 0 (u ++ v) = u ++ spec a b 0 v := by
  induction u with
  | nil => rfl
  | cons c u ih =>
    have ⟨hc, hu⟩ := List.forall_mem_cons.1 hu
    rw [List.cons_append, spec_cons_ne _ _ _ _ hc, ih hu, List.cons_append]

theorem spec_link (a b : Str) {x : Char} (hx : Closer x) (v : Str) :
    spec a b 0 (link a x ++ v) = link b x ++ spec a b 0 v := by
  have h : isLinkAt a (link a x ++ v) = true := by
    rw [isLinkAt_iff]
    rcases hx with rfl | rfl
    · exact .inl ⟨v, rfl⟩
    · exact .inr ⟨v, rfl⟩
  have e : link a x ++ v = '[' :: (('[' :: a) ++ x :: v) := link_append a x v
  rw [e, spec_zero_cons, ← e, if_pos h, ← List.length_cons (a := '['), spec_skip,
    spec_cons_ne _ _ _ _ hx.ne_bracket]
  exact (link_append b x _).symm

theorem go2_go1_eq_spec (a b : Str) (ha : Safe a) (hb : Safe b) (s : Str) :
    go (link a '#') (link b '#') 0 (go (link a ']') (link b ']') 0 s) = spec a b 0 s := by
  suffices ∀ (n : Nat) (s : Str), s.length ≤ n →
      go (link a '#') (link b '#') 0 (go (link a ']') (link b ']') 0 s) = spec a b 0 s from this _ s (Nat.le_refl _)
  intro n
  induction n with
  | zero => intro s hs; cases List.eq_nil_of_length_eq_zero (Nat.le_zero.1 hs); rfl
  | succ n ih =>
    intro s hs
    cases h : isLinkAt a s with
    | true =>
      -- a link is rewritten by the pass for its closer and copied by the other one
      rcases (isLinkAt_iff a s).1 h with ⟨t, rfl⟩ | ⟨t, rfl⟩
      · rw [go_match, go_copies_link ha hb (.inr rfl) (.inl rfl) (by decide),
          ih t (by simp at hs; omega), spec_link a b (.inl rfl)]
      · rw [go_copies_link ha ha (.inl rfl) (.inr rfl) (by decide), go_match,
          ih t (by simp at hs; omega), spec_link a b (.inr rfl)]
    | false =>
      cases s with
      | nil => rfl
      | cons c cs =>
        have hn : ¬ (link a ']' <+: c :: cs ∨ link a '#' <+: c :: cs) := by
          rw [← isLinkAt_iff, h]; decide
        rw [go_cons_of_not_prefix _ _ _ _ fun h1 => hn (.inl h1),
          go_cons_of_not_prefix _ _ _ _ fun h2 => hn (.inr (hash_prefix_of_go1 ha b c cs h2)),
          ih cs (Nat.le_of_succ_le_succ hs), spec_cons_of_not_link a b c cs h]

end ZorgVerif.Rename
