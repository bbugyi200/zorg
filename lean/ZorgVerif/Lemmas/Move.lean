import ZorgVerif.Model.Move
import ZorgVerif.Lemmas.Rename
import ZorgVerif.Lemmas.Basic
/-! Lemmas about `_add_hidden_metadata` (`note move`): nothing is lost, every missing tag / property
becomes explicit in the moved body.  The insertion is `Rename.go zid (zid ++ extras)`.  Every occurrence of the
ZID ends a word and the inserted text begins with a blank, so an inserted piece has a word boundary (`Bdry`) at
both ends, and `splitWs` distributes over the pieces into which `Rename.go_of_infix` cuts the body
(`splitWs_append_bdry`, `splitWs_insert_of_infix`). -/
namespace ZorgVerif.Move
open ZorgVerif

/-- every occurrence of the ZID in the body is the end of a word -/
def ZidEndsWords (zid body : Str) : Prop :=
  ∀ pre post, body = pre ++ zid ++ post → post = [] ∨ isWs (post.headD ' ') = true

def NoWs (w : Str) : Prop := ∀ c ∈ w, isWs c = false

/-- the word emitted when the accumulator is flushed -/
def flush (acc : Str) : List Str := if acc.isEmpty then [] else [acc.reverse]

theorem splitWs_go_nil (acc : Str) : splitWs.go acc [] = flush acc := by
  simp [splitWs.go, flush]

theorem splitWs_go_cons_ws (acc : Str) (c : Char) (r : Str) (h : isWs c = true) :
    splitWs.go acc (c :: r) = flush acc ++ splitWs.go [] r := by
  cases acc <;> simp [splitWs.go, flush, h]

theorem splitWs_go_cons_nws (acc : Str) (c : Char) (r : Str) (h : isWs c = false) :
    splitWs.go acc (c :: r) = splitWs.go (c :: acc) r := by
  simp [splitWs.go, h]

theorem splitWs_eq (s : Str) : splitWs s = splitWs.go [] s := rfl

theorem flush_nil : flush [] = [] := rfl

theorem mem_flush {w acc : Str} : w ∈ flush acc ↔ w = acc.reverse ∧ acc ≠ [] := by
  cases acc <;> simp [flush]

theorem splitWs_nil : splitWs [] = [] := by
  rw [splitWs_eq, splitWs_go_nil, flush_nil]

theorem splitWs_cons_ws (c : Char) (r : Str) (h : isWs c = true) : splitWs (c :: r) = splitWs r := by
  rw [splitWs_eq, splitWs_go_cons_ws _ _ _ h, flush_nil, List.nil_append, ← splitWs_eq]

/-- a word boundary is at the left end of `v` -/
def Bdry (v : Str) : Prop := v = [] ∨ isWs (v.headD ' ') = true

theorem splitWs_go_append_ws (c : Char) (h : isWs c = true) (u v : Str) :
    ∀ acc, splitWs.go acc (u ++ c :: v) = splitWs.go acc u ++ splitWs.go [] v := by
  induction u with
  | nil => intro acc; rw [List.nil_append, splitWs_go_cons_ws _ _ _ h, splitWs_go_nil]
  | cons d u ih =>
    intro acc
    rw [List.cons_append]
    cases hd : isWs d with
    | true => rw [splitWs_go_cons_ws _ _ _ hd, splitWs_go_cons_ws _ _ _ hd, ih, List.append_assoc]
    | false => rw [splitWs_go_cons_nws _ _ _ hd, splitWs_go_cons_nws _ _ _ hd, ih]

theorem splitWs_append_bdry (u v : Str) (hv : Bdry v) : splitWs (u ++ v) = splitWs u ++ splitWs v := by
  cases v with
  | nil => rw [List.append_nil, splitWs_nil, List.append_nil]
  | cons c v =>
    have hc : isWs c = true := by simpa [Bdry] using hv
    rw [splitWs_eq, splitWs_go_append_ws c hc, splitWs_cons_ws _ _ hc, ← splitWs_eq, ← splitWs_eq]

theorem splitWs_go_noWs (w : Str) (hw : NoWs w) : ∀ acc, splitWs.go acc w = flush (w.reverse ++ acc) := by
  induction w with
  | nil => intro acc; rw [splitWs_go_nil]; rfl
  | cons c w ih =>
    intro acc
    rw [splitWs_go_cons_nws _ _ _ (hw c (List.mem_cons_self ..)),
      ih (fun d hd => hw d (List.mem_cons_of_mem _ hd))]
    simp

theorem splitWs_noWs (w : Str) (hw : NoWs w) (hne : w ≠ []) : splitWs w = [w] := by
  rw [splitWs_eq, splitWs_go_noWs w hw]
  cases w with
  | nil => exact absurd rfl hne
  | cons c w => simp [flush]

theorem infix_of_mem_go (w : Str) : ∀ (s acc : Str), w ∈ splitWs.go acc s → w <:+: acc.reverse ++ s := by
  intro s
  induction s with
  | nil =>
    intro acc h
    rw [splitWs_go_nil, mem_flush] at h
    rw [h.1, List.append_nil]
    exact List.infix_refl _
  | cons c r ih =>
    intro acc h
    cases hc : isWs c with
    | true =>
      rw [splitWs_go_cons_ws _ _ _ hc, List.mem_append, mem_flush] at h
      rcases h with h | h
      · rw [h.1]; exact List.infix_append_left
      · exact (ih [] h).trans (List.infix_append_of_infix_right (List.infix_cons (List.infix_refl r)))
    | false =>
      rw [splitWs_go_cons_nws _ _ _ hc] at h
      simpa using ih (c :: acc) h

theorem infix_of_mem_splitWs (w s : Str) (h : w ∈ splitWs s) : w <:+: s := by
  simpa using infix_of_mem_go w s [] h

theorem infix_split_ws (p : Str) (hp : NoWs p) (c : Char) (hc : isWs c = true) (u v : Str)
    (h : p <:+: u ++ c :: v) : p <:+: u ∨ p <:+: v := by
  by_cases hne : p = []
  · exact .inl (hne ▸ List.nil_infix)
  have hcp : c ∉ p := fun hm => by rw [hp c hm] at hc; cases hc
  -- no non-empty piece of `p` is a prefix of `c :: v`
  have key : ∀ l, l <+: c :: v → l ≠ [] → c ∈ l := fun l hl hl0 => by
    rcases List.prefix_cons_iff.1 hl with rfl | ⟨t, rfl, _⟩
    · exact absurd rfl hl0
    · exact List.mem_cons_self ..
  rcases List.infix_append_iff_ne_nil.1 h with h | h | ⟨l₁, l₂, _, h2, rfl, _, hl⟩
  · exact .inl h
  · exact (List.infix_cons_iff.1 h).imp_left fun h => absurd (key p h hne) hcp
  · exact absurd (List.mem_append_right _ (key l₂ hl h2)) hcp

theorem mem_go_of_infix (p : Str) (hp : NoWs p) (hne : p ≠ []) :
    ∀ (s acc : Str), p <:+: acc.reverse ++ s → ∃ w ∈ splitWs.go acc s, p <:+: w := by
  -- an accumulator that holds `p` is not empty: it is flushed as a word
  have flushed : ∀ acc : Str, p <:+: acc.reverse → ∃ w ∈ flush acc, p <:+: w := fun acc h =>
    ⟨_, mem_flush.2 ⟨rfl, fun e => hne (List.infix_nil.1 (by rw [e] at h; exact h))⟩, h⟩
  intro s
  induction s with
  | nil =>
    intro acc h
    rw [List.append_nil] at h
    rw [splitWs_go_nil]
    exact flushed acc h
  | cons c r ih =>
    intro acc h
    cases hc : isWs c with
    | true =>
      rw [splitWs_go_cons_ws _ _ _ hc]
      rcases infix_split_ws p hp c hc _ _ h with h | h
      · obtain ⟨w, hw, hpw⟩ := flushed acc h
        exact ⟨w, List.mem_append_left _ hw, hpw⟩
      · obtain ⟨w, hw, hpw⟩ := ih [] h
        exact ⟨w, List.mem_append_right _ hw, hpw⟩
    | false =>
      rw [splitWs_go_cons_nws _ _ _ hc]
      exact ih (c :: acc) (by simpa using h)

theorem mem_splitWs_of_infix (p : Str) (hp : NoWs p) (hne : p ≠ []) (s : Str) (h : p <:+: s) :
    ∃ w ∈ splitWs s, p <:+: w :=
  mem_go_of_infix p hp hne s [] (by simpa using h)

theorem occurs_iff_infix (pat s : Str) : occurs pat s = true ↔ pat <:+: s :=
  List.any_range_isPrefixOf_iff_infix pat s

theorem bdry_spaced (ws : List Str) : Bdry ((ws.map (fun w => ' ' :: w)).flatten) := by
  cases ws with
  | nil => left; rfl
  | cons w ws => right; simp [isWs]

theorem bdry_extras (body : Str) (m : Meta) : Bdry (extras body m) := bdry_spaced _

theorem splitWs_spaced (ws : List Str) (h : ∀ w ∈ ws, NoWs w ∧ w ≠ []) :
    splitWs ((ws.map (fun w => ' ' :: w)).flatten) = ws := by
  induction ws with
  | nil => simp [splitWs_nil]
  | cons w ws ih =>
    simp only [List.map_cons, List.flatten_cons, List.cons_append]
    rw [splitWs_cons_ws _ _ (by decide), splitWs_append_bdry _ _ (bdry_spaced ws),
      splitWs_noWs w (h w (List.mem_cons_self ..)).1 (h w (List.mem_cons_self ..)).2,
      ih (fun x hx => h x (List.mem_cons_of_mem _ hx))]
    rfl

theorem splitWs_extras (body : Str) (m : Meta) (hm : ∀ w ∈ missingWords body m, NoWs w ∧ w ≠ []) :
    splitWs (extras body m) = missingWords body m :=
  splitWs_spaced _ hm

theorem ZidEndsWords.suffix {zid u t : Str} (h : ZidEndsWords zid (u ++ t)) : ZidEndsWords zid t := by
  intro pre post e
  exact h (u ++ pre) post (by rw [e]; simp)

theorem bdry_insert (zid new : Str) (hz : zid ≠ []) (hzw : NoWs zid) (post : Str) (hb : Bdry post) :
    Bdry (Rename.go zid new 0 post) := by
  match zid, post, hb with
  | _, [], _ => exact .inl (Rename.go_nil ..)
  | [], _ :: _, _ => exact absurd rfl hz
  | o :: os, c :: p, .inr hb =>
    -- the whitespace character in front is not the first character of the ZID: it is copied
    have hne : c ≠ o := fun e => by
      rw [List.headD_cons, e, hzw o (List.mem_cons_self ..)] at hb; cases hb
    rw [Rename.go_cons_ne _ _ _ _ _ hne]
    exact .inr hb

/-- the words before and after the replacement, split at the first occurrence of the ZID: the inserted
text contributes its own words and breaks none -/
theorem splitWs_insert_of_infix (zid E : Str) (hz : zid ≠ []) (hzw : NoWs zid) (hE : Bdry E) (s : Str)
    (he : ZidEndsWords zid s) (h : zid <:+: s) :
    ∃ pre post, s = pre ++ zid ++ post ∧
      splitWs s = splitWs (pre ++ zid) ++ splitWs post ∧
      splitWs (Rename.go zid (zid ++ E) 0 s) =
        splitWs (pre ++ zid) ++ splitWs E ++ splitWs (Rename.go zid (zid ++ E) 0 post) := by
  obtain ⟨pre, post, hs, hg⟩ := Rename.go_of_infix zid (zid ++ E) hz s h
  have hb : Bdry post := he pre post hs
  refine ⟨pre, post, hs, by rw [hs, splitWs_append_bdry _ _ hb], ?_⟩
  rw [hg, ← List.append_assoc pre, splitWs_append_bdry _ _ (bdry_insert zid _ hz hzw post hb),
    splitWs_append_bdry _ _ hE]

theorem splitWs_insert_sublist (zid E : Str) (hz : zid ≠ []) (hzw : NoWs zid) (hE : Bdry E) (s : Str)
    (he : ZidEndsWords zid s) : (splitWs s).Sublist (splitWs (Rename.go zid (zid ++ E) 0 s)) := by
  suffices ∀ (n : Nat) (s : Str), s.length < n → ZidEndsWords zid s →
      (splitWs s).Sublist (splitWs (Rename.go zid (zid ++ E) 0 s)) from this _ s (Nat.lt_succ_self _) he
  intro n
  induction n with
  | zero => intro s hs; exact absurd hs (Nat.not_lt_zero _)
  | succ n ih =>
    intro s hs he
    by_cases h : zid <:+: s
    · obtain ⟨pre, post, rfl, h1, h2⟩ := splitWs_insert_of_infix zid E hz hzw hE s he h
      rw [h1, h2]
      have : 0 < zid.length := List.length_pos_iff.mpr hz
      simp only [List.length_append] at hs
      exact (List.sublist_append_left _ _).append (ih post (by omega) he.suffix)
    · rw [Rename.go_of_not_infix _ _ _ h]
      exact List.Sublist.refl _

theorem mem_tagWords (body : Str) (ch : Char) (ts : List Str) (t : Str) (ht : t ∈ ts)
    (h : bodyHasTag body (ch :: t) = false) :
    (ch :: t) ∈ (ts.filter (fun t => !bodyHasTag body (ch :: t))).map (fun t => ch :: t) :=
  List.mem_map.mpr ⟨t, List.mem_filter.mpr ⟨ht, by rw [h]; rfl⟩, rfl⟩

theorem missingWords_complete_tag (body : Str) (m : Meta) :
    (∀ t ∈ m.projects, bodyHasTag body ('+' :: t) = false → ('+' :: t) ∈ missingWords body m) ∧
    (∀ t ∈ m.areas,    bodyHasTag body ('#' :: t) = false → ('#' :: t) ∈ missingWords body m) ∧
    (∀ t ∈ m.contexts, bodyHasTag body ('@' :: t) = false → ('@' :: t) ∈ missingWords body m) ∧
    (∀ t ∈ m.people,   bodyHasTag body ('%' :: t) = false → ('%' :: t) ∈ missingWords body m) := by
  refine ⟨?_, ?_, ?_, ?_⟩ <;> intro t ht h <;>
    simp only [missingWords, List.mem_append, mem_tagWords body _ _ t ht h, true_or, or_true]

theorem missingWords_complete_prop (body : Str) (m : Meta) (kv : Str × Str) (hkv : kv ∈ m.props)
    (h : occurs (kv.1 ++ "::".toList) body = false) :
    (kv.1 ++ "::".toList ++ kv.2) ∈ missingWords body m := by
  simp only [missingWords, List.mem_append, List.mem_map, List.mem_filter]
  exact Or.inr ⟨kv, ⟨hkv, by rw [h]; rfl⟩, rfl⟩

theorem hidden_only_inserts (body zid : Str) (m : Meta) :
    addHiddenMetadata body zid m = body ∨
    (extras body m ≠ [] ∧
      addHiddenMetadata body zid m = Rename.replaceAll zid (zid ++ extras body m) body) := by
  unfold addHiddenMetadata
  split
  · exact .inl rfl
  · next h => exact .inr ⟨fun e => h (List.isEmpty_iff.2 e), rfl⟩

theorem words_kept (body zid : Str) (m : Meta) (hz : zid ≠ []) (hzw : NoWs zid)
    (he : ZidEndsWords zid body) :
    ∀ w ∈ splitWs body, w ∈ splitWs (addHiddenMetadata body zid m) := by
  intro w hw
  unfold addHiddenMetadata
  split
  · exact hw
  · exact (splitWs_insert_sublist zid (extras body m) hz hzw (bdry_extras body m) body he).subset hw

theorem missing_words_added (body zid : Str) (m : Meta) (hz : zid ≠ []) (hzw : NoWs zid)
    (he : ZidEndsWords zid body) (ho : occurs zid body = true)
    (hm : ∀ w ∈ missingWords body m, NoWs w ∧ w ≠ []) :
    ∀ w ∈ missingWords body m, w ∈ splitWs (addHiddenMetadata body zid m) := by
  intro w hw
  rw [← splitWs_extras body m hm] at hw
  unfold addHiddenMetadata
  split
  · next h => rw [List.isEmpty_iff.1 h, splitWs_nil] at hw; cases hw
  · -- the ZID occurs, so the inserted words stand after its first occurrence
    obtain ⟨_, _, _, _, h2⟩ := splitWs_insert_of_infix zid _ hz hzw (bdry_extras body m) body he
      ((occurs_iff_infix _ _).mp ho)
    rw [Rename.replaceAll, h2]
    exact List.mem_append_left _ (List.mem_append_right _ hw)

theorem bodyHasTag_iff (body tag : Str) :
    bodyHasTag body tag = true ↔ ∃ w ∈ splitWs body, stripTagWord w = tag := by
  simp [bodyHasTag]

theorem tags_explicit (body zid : Str) (m : Meta) (hz : zid ≠ []) (hzw : NoWs zid)
    (he : ZidEndsWords zid body) (ho : occurs zid body = true)
    (hm : ∀ w ∈ missingWords body m, NoWs w ∧ w ≠ [])
    (hs : ∀ w ∈ missingWords body m, stripTagWord w = w) :
    (∀ t ∈ m.projects, bodyHasTag (addHiddenMetadata body zid m) ('+' :: t) = true) ∧
    (∀ t ∈ m.areas,    bodyHasTag (addHiddenMetadata body zid m) ('#' :: t) = true) ∧
    (∀ t ∈ m.contexts, bodyHasTag (addHiddenMetadata body zid m) ('@' :: t) = true) ∧
    (∀ t ∈ m.people,   bodyHasTag (addHiddenMetadata body zid m) ('%' :: t) = true) := by
  -- a tag is a word of the old body, which is kept, or a missing word, which is added
  have aux : ∀ tag, (bodyHasTag body tag = false → tag ∈ missingWords body m) →
      bodyHasTag (addHiddenMetadata body zid m) tag = true := by
    intro tag hmiss
    rw [bodyHasTag_iff]
    cases h : bodyHasTag body tag with
    | true =>
      obtain ⟨w, hw, hwt⟩ := (bodyHasTag_iff _ _).1 h
      exact ⟨w, words_kept body zid m hz hzw he w hw, hwt⟩
    | false =>
      exact ⟨tag, missing_words_added body zid m hz hzw he ho hm tag (hmiss h), hs tag (hmiss h)⟩
  obtain ⟨h1, h2, h3, h4⟩ := missingWords_complete_tag body m
  exact ⟨fun t ht => aux _ (h1 t ht), fun t ht => aux _ (h2 t ht), fun t ht => aux _ (h3 t ht),
    fun t ht => aux _ (h4 t ht)⟩

/-- if every key that already occurs in the old body occurs inside one of its words, all keys occur in
the new body -/
theorem props_explicit_partial (body zid : Str) (m : Meta) (hz : zid ≠ []) (hzw : NoWs zid)
    (he : ZidEndsWords zid body) (ho : occurs zid body = true)
    (hm : ∀ w ∈ missingWords body m, NoWs w ∧ w ≠ [])
    (hk : ∀ kv ∈ m.props, occurs (kv.1 ++ "::".toList) body = true →
      ∃ w ∈ splitWs body, occurs (kv.1 ++ "::".toList) w = true) :
    ∀ kv ∈ m.props, occurs (kv.1 ++ "::".toList) (addHiddenMetadata body zid m) = true := by
  intro kv hkv
  rw [occurs_iff_infix]
  cases h : occurs (kv.1 ++ "::".toList) body with
  | true =>
    obtain ⟨w, hw, hkw⟩ := hk kv hkv h
    exact ((occurs_iff_infix _ _).mp hkw).trans
      (infix_of_mem_splitWs _ _ (words_kept body zid m hz hzw he w hw))
  | false =>
    have := infix_of_mem_splitWs _ _
      (missing_words_added body zid m hz hzw he ho hm _ (missingWords_complete_prop body m kv hkv h))
    exact (List.prefix_append _ _).isInfix.trans this

end ZorgVerif.Move
