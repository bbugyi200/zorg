import ZorgVerif.Lemmas.Index
import ZorgVerif.Model.Crash
/-! Crash convergence of `db reindex` / `db create` (C13): whatever prefix of the effect list a kill leaves
behind, a rerun reaches a store where index, hash map and files agree, and no user text is lost.

The argument is page by page.  An effect writes one of the three maps (`Eff.part`) and, unless it replaces the
map, at one page (`Eff.path`); in a run of one group of effects per page a kill leaves each page inside its own
group (`applyAll_groups`).  For `db reindex` the commits before the hash map is saved touch only pages whose
recorded hash does not match the file (`commits_sub`); once it is saved, every page either has no recorded hash
or is already as the uninterrupted run leaves it (`writeback_sim`), and that store is in agreement
(`reindexPlain_spec`).  `db create` is three effects that replace index and hash map as a whole, then the
write-backs of `db reindex` on the store with empty index (`createEffs_eq`); its rerun reads only the files, so
of its crash states only the user text has to be followed. -/
namespace ZorgVerif.Crash
open ZorgVerif ZorgVerif.Index

variable {Page : Type}

/-- what is left of `Inv` after a kill: it speaks only of the pages whose file is still the recorded text -/
def InvM (sem : Sem Page) (s : Store Page) : Prop :=
  ∀ p t, get s.files p = some t → get s.hashes p = some t → Settled sem t ∧ get s.db p = some (pageOf sem t)

theorem InvM.of_Inv {sem : Sem Page} {s : Store Page} (h : Inv sem s) : InvM sem s :=
  fun p t _ hh => h p t hh

section Maps
variable {β : Type}

theorem get_iff_mem {m : List (Path × β)} (hu : Uniq m) (p : Path) (v : β) :
    get m p = some v ↔ (p, v) ∈ m := ⟨mem_of_get, get_of_mem hu⟩

theorem key_mem_of_get {m : List (Path × β)} {p : Path} {v : β} (h : get m p = some v) :
    p ∈ m.map (·.1) := List.mem_map.2 ⟨(p, v), mem_of_get h, rfl⟩

end Maps

theorem applyAll_nil (s : Store Page) : applyAll s [] = s := rfl
theorem applyAll_cons (s : Store Page) (e : Eff Page) (es : List (Eff Page)) :
    applyAll s (e :: es) = applyAll (Eff.apply s e) es := rfl
theorem applyAll_append (s : Store Page) (xs ys : List (Eff Page)) :
    applyAll s (xs ++ ys) = applyAll (applyAll s xs) ys := by
  unfold applyAll; rw [List.foldl_append]

theorem uniq_applyAll_files (es : List (Eff Page)) :
    ∀ {s : Store Page}, Uniq s.files → Uniq (applyAll s es).files := by
  induction es with
  | nil => exact id
  | cons e es ih => exact fun h => ih (by cases e <;> first | exact h | exact h.put _ _)

/-- the map an effect writes -/
inductive Part where
  | files | db | hashes

def Eff.part : Eff Page → Part
  | .file .. => .files
  | .hashAll _ | .hashPut .. => .hashes
  | _ => .db

def Eff.path : Eff Page → Option Path
  | .dbDamage p _ | .dbDrop p | .dbPut p _ | .hashPut p _ | .file p _ => some p
  | _ => none

/-- `c'` and `c` differ at most in the given map -/
def Part.others (c' c : Store Page) : Part → Prop
  | .files => c'.db = c.db ∧ c'.hashes = c.hashes
  | .db => c'.files = c.files ∧ c'.hashes = c.hashes
  | .hashes => c'.files = c.files ∧ c'.db = c.db

theorem Eff.apply_part (e : Eff Page) (c : Store Page) : e.part.others (e.apply c) c := by
  cases e <;> exact ⟨rfl, rfl⟩

theorem applyAll_part (x : Part) (es : List (Eff Page)) (h : ∀ e ∈ es, e.part = x) :
    ∀ c : Store Page, x.others (applyAll c es) c := by
  induction es with
  | nil => exact fun c => by cases x <;> exact ⟨rfl, rfl⟩
  | cons e es ih =>
    intro c
    have i := ih (fun e he => h e (List.mem_cons_of_mem _ he)) (e.apply c)
    have a := e.apply_part c
    rw [h e List.mem_cons_self] at a
    cases x <;> exact ⟨i.1.trans a.1, i.2.trans a.2⟩

theorem Eff.apply_at_of_ne {e : Eff Page} {p q : Path} (he : e.path = some p) (hq : p ≠ q) (c : Store Page) :
    (e.apply c).at q = c.at q := by
  cases e <;> cases he <;> simp [Store.at, Eff.apply, get_put_ne, get_del, Ne.symm hq]

theorem Eff.apply_congr (e : Eff Page) {q : Path} {a b : Store Page} (h : a.at q = b.at q) :
    (e.apply a).at q = (e.apply b).at q := by
  obtain ⟨h1, h2, h3⟩ := Cell.mk.inj h
  cases e <;> simp only [Store.at, Eff.apply, get_put, get_del, h1, h2, h3]

theorem applyAll_at_of_ne {q : Path} (es : List (Eff Page)) (h : ∀ e ∈ es, ∃ p, e.path = some p ∧ p ≠ q) :
    ∀ c : Store Page, (applyAll c es).at q = c.at q := by
  induction es with
  | nil => exact fun _ => rfl
  | cons e es ih =>
    intro c
    obtain ⟨p, hp, hq⟩ := h e List.mem_cons_self
    exact (ih (fun e he => h e (List.mem_cons_of_mem _ he)) _).trans (Eff.apply_at_of_ne hp hq c)

theorem applyAll_congr (es : List (Eff Page)) {q : Path} :
    ∀ {a b : Store Page}, a.at q = b.at q → (applyAll a es).at q = (applyAll b es).at q := by
  induction es with
  | nil => exact id
  | cons e es ih => exact fun h => ih (e.apply_congr h)

/-- A run of one group of effects per page (the pages distinct) that is killed
after `k` effects leaves a page without a group as it was, and a page with a group as if only its own group had
run, up to some point (to the end, if nothing was cut off). -/
theorem applyAll_groups {β : Type} (g : Path × β → List (Eff Page)) (hg : ∀ w e, e ∈ g w → e.path = some w.1) :
    ∀ ws : List (Path × β), Uniq ws → ∀ (c : Store Page) (k : Nat) (q : Path),
      (q ∉ ws.map (·.1) → (applyAll c ((ws.flatMap g).take k)).at q = c.at q) ∧
      (∀ w ∈ ws, w.1 = q → ∃ j, ((ws.flatMap g).length ≤ k → (g w).length ≤ j) ∧
        (applyAll c ((ws.flatMap g).take k)).at q = (applyAll c ((g w).take j)).at q) := by
  intro ws
  induction ws with
  | nil => exact fun _ c k q => ⟨fun _ => by rw [List.flatMap_nil, List.take_nil]; rfl, nofun⟩
  | cons w ws ih =>
    intro hn c k q
    obtain ⟨hn1, hn2⟩ := List.nodup_cons.1 hn
    rw [List.flatMap_cons, List.take_append, applyAll_append, List.length_append]
    obtain ⟨I0, I1⟩ := ih hn2 (applyAll c ((g w).take k)) (k - (g w).length) q
    have hw : w.1 ≠ q → (applyAll c ((g w).take k)).at q = c.at q := fun hq =>
      applyAll_at_of_ne _ (fun e he => ⟨_, hg w e (List.mem_of_mem_take he), hq⟩) c
    constructor
    · intro hq
      rw [List.map_cons, List.mem_cons, not_or] at hq
      exact (I0 hq.2).trans (hw (Ne.symm hq.1))
    · intro w' hw' hk
      rcases List.mem_cons.1 hw' with rfl | hm
      · exact ⟨k, fun h => Nat.le_trans (Nat.le_add_right _ _) h, I0 (hk ▸ hn1)⟩
      · obtain ⟨j, hj, hag⟩ := I1 w' hm hk
        have hne : w.1 ≠ q := fun e => hn1 (List.mem_map.2 ⟨w', hm, hk.trans e.symm⟩)
        exact ⟨j, fun h => hj (Nat.le_sub_of_add_le' h), hag.trans (applyAll_congr _ (hw hne))⟩

theorem applyAll_groups_full {β : Type} (g : Path × β → List (Eff Page)) (hg : ∀ w e, e ∈ g w → e.path = some w.1)
    {ws : List (Path × β)} (hn : Uniq ws) (c : Store Page) (q : Path) :
    (q ∉ ws.map (·.1) → (applyAll c (ws.flatMap g)).at q = c.at q) ∧
    (∀ w ∈ ws, w.1 = q → (applyAll c (ws.flatMap g)).at q = (applyAll c (g w)).at q) := by
  have h := applyAll_groups g hg ws hn c (ws.flatMap g).length q
  rw [List.take_length] at h
  refine ⟨h.1, fun w hw hk => ?_⟩
  obtain ⟨j, hj, hag⟩ := h.2 w hw hk
  rwa [List.take_of_length_le (hj (Nat.le_refl _))] at hag

theorem mem_changed {s : Store Page} {p : Path} {t : Text} :
    (p, t) ∈ changed s ↔ (p, t) ∈ s.files ∧ get s.hashes p ≠ some t := by
  unfold changed
  simp [List.mem_filter]

theorem files_none_of_stale {s : Store Page} {p : Path} (h : p ∈ stale s) : get s.files p = none := by
  unfold stale at h
  obtain ⟨kv, hkv, rfl⟩ := List.mem_map.1 h
  simpa using (List.mem_filter.1 hkv).2

theorem stale_of_db {s : Store Page} {p : Path} {v : Page} (hd : get s.db p = some v)
    (hf : get s.files p = none) : p ∈ stale s :=
  List.mem_map.2 ⟨(p, v), List.mem_filter.2 ⟨mem_of_get hd, by simp [hf]⟩, rfl⟩

theorem mem_work {sem : Sem Page} {s : Store Page} (hu : Uniq s.files) {w : Path × Text × Text × Page} :
    w ∈ work sem s ↔
      get s.files w.1 = some w.2.1 ∧ get s.hashes w.1 ≠ some w.2.1 ∧ w.2.2 = sem.process (get s.db w.1) w.2.1 := by
  unfold work
  constructor
  · intro h
    obtain ⟨kv, hkv, rfl⟩ := List.mem_map.1 h
    exact ⟨get_of_mem hu (mem_changed.1 hkv).1, (mem_changed.1 hkv).2, rfl⟩
  · rintro ⟨hf, hh, e⟩
    exact List.mem_map.2 ⟨(w.1, w.2.1), mem_changed.2 ⟨mem_of_get hf, hh⟩, by rw [← e]⟩

theorem work_of_changed {sem : Sem Page} {s : Store Page} {q : Path} {t : Text}
    (hf : get s.files q = some t) (hh : get s.hashes q ≠ some t) :
    (q, t, sem.process (get s.db q) t) ∈ work sem s :=
  List.mem_map.2 ⟨(q, t), mem_changed.2 ⟨mem_of_get hf, hh⟩, rfl⟩

theorem work_uniq (sem : Sem Page) {s : Store Page} (hu : Uniq s.files) : Uniq (work sem s) := by
  unfold work Uniq
  rw [List.map_map]
  exact hu.filter _

theorem pending_uniq (sem : Sem Page) {s : Store Page} (hu : Uniq s.files) : Uniq (pending sem s) :=
  (work_uniq sem hu).filter _

theorem mem_pending {sem : Sem Page} {s : Store Page} {w : Path × Text × Text × Page} :
    w ∈ pending sem s ↔ w ∈ work sem s ∧ w.2.2.1 ≠ w.2.1 := by
  unfold pending
  simp [List.mem_filter]

theorem reindexPlain_work (sem : Sem Page) {s : Store Page} (hu : Uniq s.files) {w : Path × Text × Text × Page}
    (hw : w ∈ work sem s) : (reindexPlain sem s).at w.1 = ⟨some w.2.2.1, some w.2.2.2, some w.2.2.1⟩ := by
  obtain ⟨w1, w2, w3⟩ := (mem_work hu).1 hw
  rw [reindexPlain_changed sem hu w1 w2, ← w3]

theorem reindexPlain_files (sem : Sem Page) {s : Store Page} (hu : Uniq s.files) {q : Path}
    (hq : q ∉ (pending sem s).map (·.1)) :
    get (reindexPlain sem s).files q = get s.files q ∧ get (reindexPlain sem s).hashes q = get s.files q := by
  cases hf : get s.files q with
  | none =>
    obtain ⟨a, _, c⟩ := Cell.mk.inj (reindexPlain_none sem hu hf)
    exact ⟨a, c⟩
  | some t =>
    by_cases hg : get s.hashes q = some t
    · obtain ⟨a, _, c⟩ := Cell.mk.inj (reindexPlain_same sem hu hf hg)
      exact ⟨a.trans hf, c.trans hg⟩
    · obtain ⟨a, _, c⟩ := Cell.mk.inj (reindexPlain_changed sem hu hf hg)
      -- a changed page that is not pending is one that processing leaves as it is
      have e : (sem.process (get s.db q) t).1 = t := Classical.byContradiction fun hne =>
        hq (List.mem_map.2 ⟨_, mem_pending.2 ⟨work_of_changed hf hg, hne⟩, rfl⟩)
      rw [e] at a c
      exact ⟨a, c⟩

theorem mem_removal {env : Env Page} {p : Path} {e : Eff Page} (he : e ∈ removal env p) :
    e.part = .db ∧ e.path = some p := by
  obtain ⟨j, _, rfl⟩ := List.mem_map.1 he
  exact ⟨rfl, rfl⟩

theorem mem_commit {env : Env Page} {p : Path} {e0 e : Eff Page} (h0 : e0.part = .db ∧ e0.path = some p)
    (he : e ∈ removal env p ++ [e0]) : e.part = .db ∧ e.path = some p := by
  rcases List.mem_append.1 he with h | h
  · exact mem_removal h
  · cases List.mem_singleton.1 h; exact h0

/-- the commits that bring the index up to date: stale pages dropped, changed pages compiled -/
def commits (sem : Sem Page) (env : Env Page) (s : Store Page) : List (Eff Page) :=
  (stale s).flatMap (fun p => removal env p ++ [Eff.dbDrop p]) ++
  (work sem s).flatMap (fun w => removal env w.1 ++ [Eff.dbPut w.1 w.2.2.2])

theorem commits_mem (sem : Sem Page) (env : Env Page) {s : Store Page} (hu : Uniq s.files) {e : Eff Page}
    (he : e ∈ commits sem env s) :
    e.part = .db ∧ ∃ p, e.path = some p ∧ ∀ t, get s.files p = some t → get s.hashes p ≠ some t := by
  rcases List.mem_append.1 he with h | h
  · obtain ⟨p, hp, hm⟩ := List.mem_flatMap.1 h
    obtain ⟨a, b⟩ := mem_commit ⟨rfl, rfl⟩ hm
    exact ⟨a, p, b, fun t ht => by rw [files_none_of_stale hp] at ht; cases ht⟩
  · obtain ⟨w, hw, hm⟩ := List.mem_flatMap.1 h
    obtain ⟨w1, w2, _⟩ := (mem_work hu).1 hw
    obtain ⟨a, b⟩ := mem_commit ⟨rfl, rfl⟩ hm
    exact ⟨a, w.1, b, fun t ht => by rw [w1] at ht; cases ht; exact w2⟩

theorem commits_sub (sem : Sem Page) (env : Env Page) {s : Store Page} (hu : Uniq s.files) {es : List (Eff Page)}
    (hes : ∀ e ∈ es, e ∈ commits sem env s) :
    (applyAll s es).files = s.files ∧ (applyAll s es).hashes = s.hashes ∧
    ∀ q t, get s.files q = some t → get s.hashes q = some t → get (applyAll s es).db q = get s.db q := by
  have hm := fun e he => commits_mem sem env hu (hes e he)
  obtain ⟨a, b⟩ := applyAll_part .db es (fun e he => (hm e he).1) s
  refine ⟨a, b, fun q t hf hh => Store.db_of_at (applyAll_at_of_ne es (fun e he => ?_) s)⟩
  obtain ⟨p, hp, hng⟩ := (hm e he).2
  exact ⟨p, hp, fun e => hng t (e ▸ hf) (e ▸ hh)⟩

theorem drops_db (env : Env Page) (ps : List Path) : ∀ (c : Store Page) (q : Path),
    get (applyAll c (ps.flatMap (fun p => removal env p ++ [Eff.dbDrop p]))).db q
      = if q ∈ ps then none else get c.db q := by
  induction ps with
  | nil => intro c q; rfl
  | cons p ps ih =>
    intro c q
    rw [List.flatMap_cons, applyAll_append, applyAll_append, ih]
    show (if q ∈ ps then none else get (del (applyAll c (removal env p)).db p) q) = _
    rw [get_del]
    by_cases e : q = p
    · simp [e]
    · rw [if_neg e, Store.db_of_at (applyAll_at_of_ne _ (fun _ he => ⟨p, (mem_removal he).2, Ne.symm e⟩) c)]
      simp [e]

theorem commits_db (sem : Sem Page) (env : Env Page) {s : Store Page} (hu : Uniq s.files) (q : Path) :
    get (applyAll s (commits sem env s)).db q = get (reindexPlain sem s).db q := by
  have h2 := applyAll_groups_full (fun w : Path × Text × Text × Page => removal env w.1 ++ [Eff.dbPut w.1 w.2.2.2])
    (fun _ _ he => (mem_commit ⟨rfl, rfl⟩ he).2) (work_uniq sem hu)
    (applyAll s ((stale s).flatMap (fun p => removal env p ++ [Eff.dbDrop p]))) q
  cases hf : get s.files q with
  | none =>
    have hq : q ∉ (work sem s).map (·.1) := fun hm => by
      obtain ⟨w, hw, rfl⟩ := List.mem_map.1 hm
      rw [((mem_work hu).1 hw).1] at hf; cases hf
    rw [Store.db_of_at (reindexPlain_none sem hu hf), commits, applyAll_append, Store.db_of_at (h2.1 hq), drops_db]
    split
    · rfl
    · cases hd : get s.db q with
      | none => rfl
      | some v => exact absurd (stale_of_db hd hf) ‹_›
  | some t =>
    by_cases hg : get s.hashes q = some t
    · rw [Store.db_of_at (reindexPlain_same sem hu hf hg)]
      exact (commits_sub sem env hu (fun _ h => h)).2.2 q t hf hg
    · rw [Store.db_of_at (reindexPlain_changed sem hu hf hg), commits, applyAll_append,
        Store.db_of_at (h2.2 _ (work_of_changed hf hg) rfl), applyAll_append]
      exact get_put_self _ _ _

/-- the hash map that is saved: the pending pages are left out -/
def hmap (sem : Sem Page) (s : Store Page) : List (Path × Text) :=
  s.files.filter (fun kv => !((pending sem s).any (fun w => w.1 == kv.1)))

theorem get_hmap (sem : Sem Page) (s : Store Page) (q : Path) :
    get (hmap sem s) q = if q ∈ (pending sem s).map (·.1) then none else get s.files q := by
  unfold hmap
  rw [get_filter_key (fun k => !((pending sem s).any (fun w => w.1 == k)))]
  by_cases h : q ∈ (pending sem s).map (·.1)
  · rw [if_pos h, if_neg]
    obtain ⟨w, hw, rfl⟩ := List.mem_map.1 h
    simp only [Bool.not_eq_true', Bool.not_eq_false, List.any_eq_true]
    exact ⟨w, hw, by simp⟩
  · rw [if_neg h, if_pos]
    simp only [Bool.not_eq_true', List.any_eq_false]
    intro w hw hb
    exact h (List.mem_map.2 ⟨w, hw, by simpa using hb⟩)

/-- the write-back of one pending page: the intermediate text (if any), the final text, the hash entry -/
def wb (mid : Path → Text → Option Text) (w : Path × Text × Text × Page) : List (Eff Page) :=
  (mid w.1 w.2.1).toList.map (Eff.file w.1) ++ [Eff.file w.1 w.2.2.1, Eff.hashPut w.1 w.2.2.1]

theorem wb_eq (mid : Path → Text → Option Text) (w : Path × Text × Text × Page) :
    wb mid w = (((mid w.1 w.2.1).toList ++ [w.2.2.1]).map (Eff.file w.1) ++ [Eff.hashPut w.1 w.2.2.1] : List (Eff Page)) := by
  simp [wb]

theorem wb_path {mid : Path → Text → Option Text} {w : Path × Text × Text × Page} {e : Eff Page}
    (he : e ∈ wb mid w) : e.path = some w.1 := by
  rw [wb_eq] at he
  rcases List.mem_append.1 he with h | h
  · obtain ⟨x, _, rfl⟩ := List.mem_map.1 h; rfl
  · cases List.mem_singleton.1 h; rfl

theorem wb_cut (mid : Path → Text → Option Text) (w : Path × Text × Text × Page) (c : Store Page)
    {pw : List (Eff Page)} (h : pw <+: wb mid w) :
    pw = wb mid w ∨ ((applyAll c pw).db = c.db ∧ (applyAll c pw).hashes = c.hashes) := by
  rw [wb_eq] at h ⊢
  rcases List.prefix_concat_iff.1 h with e | h'
  · exact .inl e
  · have hp : ∀ e ∈ pw, e.part = .files := fun e he => by
      obtain ⟨x, _, rfl⟩ := List.mem_map.1 (h'.subset he); rfl
    exact .inr (applyAll_part .files pw hp c)

theorem wb_full (mid : Path → Text → Option Text) (w : Path × Text × Text × Page) (c : Store Page) :
    (applyAll c (wb mid w)).db = c.db ∧ get (applyAll c (wb mid w)).files w.1 = some w.2.2.1 ∧
      get (applyAll c (wb mid w)).hashes w.1 = some w.2.2.1 := by
  unfold wb
  rw [applyAll_append]
  refine ⟨?_, get_put_self _ _ _, get_put_self _ _ _⟩
  exact (applyAll_part .files _ (fun e he => by obtain ⟨x, _, rfl⟩ := List.mem_map.1 he; rfl) c).1

theorem reindexEffs_eq (sem : Sem Page) (env : Env Page) (s : Store Page) :
    reindexEffs sem env s
      = commits sem env s ++ (Eff.hashAll (hmap sem s) :: (pending sem s).flatMap (wb env.mid)) := by
  show _ ++ _ ++ [_] ++ _ = _
  rw [List.append_assoc (_ ++ _) [_] _]
  rfl

/-- Start the write-backs of the pending pages from a store `c` that has the
final index and is final at every page that is not pending.  After any number of their effects every page is
final or still has the recorded hash it had in `c`; after all of them every page is final. -/
theorem writeback_sim (sem : Sem Page) (mid : Path → Text → Option Text) {s c : Store Page} (hu : Uniq s.files)
    (hc : ∀ q, get c.db q = get (reindexPlain sem s).db q ∧
      (q ∉ (pending sem s).map (·.1) → c.at q = (reindexPlain sem s).at q))
    (q : Path) :
    (∀ k, (applyAll c (((pending sem s).flatMap (wb mid)).take k)).at q = (reindexPlain sem s).at q ∨
      (q ∈ (pending sem s).map (·.1) ∧
        get (applyAll c (((pending sem s).flatMap (wb mid)).take k)).hashes q = get c.hashes q)) ∧
    (applyAll c ((pending sem s).flatMap (wb mid))).at q = (reindexPlain sem s).at q := by
  have K := fun k => applyAll_groups (wb mid) (fun _ _ => wb_path) _ (pending_uniq sem hu) c k q
  have KF := applyAll_groups_full (wb mid) (fun _ _ => wb_path) (pending_uniq sem hu) c q
  by_cases hq : q ∈ (pending sem s).map (·.1)
  · obtain ⟨w, hw, rfl⟩ := List.mem_map.1 hq
    have full : (applyAll c (wb mid w)).at w.1 = (reindexPlain sem s).at w.1 := by
      obtain ⟨a1, a2, a3⟩ := wb_full mid w c
      obtain ⟨f1, _, f3⟩ := Cell.mk.inj (reindexPlain_work sem hu (mem_pending.1 hw).1)
      exact Store.at_ext (a2.trans f1.symm) (by rw [a1, (hc w.1).1]) (a3.trans f3.symm)
    refine ⟨fun k => ?_, (KF.2 w hw rfl).trans full⟩
    obtain ⟨j, _, hag⟩ := (K k).2 w hw rfl
    rcases wb_cut mid w c (List.take_prefix j _) with e | ⟨_, hh⟩
    · exact .inl ((e ▸ hag).trans full)
    · exact .inr ⟨hq, by rw [Store.hashes_of_at hag, hh]⟩
  · exact ⟨fun k => .inl (((K k).1 hq).trans ((hc q).2 hq)), (KF.1 hq).trans ((hc q).2 hq)⟩

/-- the store from which the write-backs of `db reindex` start: the commits are done, the hash map is saved -/
def wbStart (sem : Sem Page) (env : Env Page) (s : Store Page) : Store Page :=
  { applyAll s (commits sem env s) with hashes := hmap sem s }

theorem applyAll_wbStart (sem : Sem Page) (env : Env Page) (s : Store Page) (ys : List (Eff Page)) :
    applyAll s (commits sem env s ++ Eff.hashAll (hmap sem s) :: ys) = applyAll (wbStart sem env s) ys := by
  rw [applyAll_append, applyAll_cons]; rfl

theorem wbStart_final (sem : Sem Page) (env : Env Page) {s : Store Page} (hu : Uniq s.files) (q : Path) :
    get (wbStart sem env s).db q = get (reindexPlain sem s).db q ∧
      (q ∉ (pending sem s).map (·.1) → (wbStart sem env s).at q = (reindexPlain sem s).at q) := by
  simp only [wbStart]
  refine ⟨commits_db sem env hu q, fun hq => Store.at_ext ?_ (commits_db sem env hu q) ?_⟩
  · rw [(commits_sub sem env hu (fun _ h => h)).1, (reindexPlain_files sem hu hq).1]
  · rw [get_hmap, if_neg hq, (reindexPlain_files sem hu hq).2]

theorem crashReindex_InvM {sem : Sem Page} (hs : Stable sem) (env : Env Page) {s : Store Page} (h : Inv sem s)
    (hu : Uniq s.files) (k : Nat) :
    InvM sem (crashReindex sem env s k) ∧ Uniq (crashReindex sem env s k).files := by
  refine ⟨?_, uniq_applyAll_files _ hu⟩
  unfold crashReindex
  rw [reindexEffs_eq]
  intro q t hf hh
  rcases Nat.lt_or_ge (commits sem env s).length k with hk | hk
  · obtain ⟨j, rfl⟩ := Nat.exists_eq_add_of_lt hk
    rw [Nat.add_assoc, List.take_length_add_append, List.take_succ_cons, applyAll_wbStart] at hf hh ⊢
    obtain ⟨ha, hb, _⟩ := reindexPlain_spec hs (InvM.of_Inv h) hu
    rcases (writeback_sim sem env.mid hu (wbStart_final sem env hu) q).1 j with ag | ⟨hq, e⟩
    · obtain ⟨a1, a2, _⟩ := Cell.mk.inj ag
      rw [a1] at hf
      rw [a2, ha q, hf]
      exact ⟨hb q t hf, rfl⟩
    · rw [e] at hh
      rw [show get (wbStart sem env s).hashes q = _ from get_hmap sem s q, if_pos hq] at hh
      cases hh
  · rw [List.take_append_of_le_length hk] at hf hh ⊢
    obtain ⟨a1, a2, a3⟩ := commits_sub sem env hu (fun _ => List.mem_of_mem_take (i := k))
    rw [a1] at hf
    rw [a2] at hh
    rw [a3 q t hf hh]
    exact h q t hh

theorem reindexEffs_agreeAt (sem : Sem Page) (env : Env Page) {s : Store Page} (hu : Uniq s.files) (q : Path) :
    (applyAll s (reindexEffs sem env s)).at q = (reindexPlain sem s).at q := by
  rw [reindexEffs_eq, applyAll_wbStart]
  exact (writeback_sim sem env.mid hu (wbStart_final sem env hu) q).2

theorem applyAll_userText {α : Type} (ut : Text → α) (s : Store Page) (es : List (Eff Page))
    (hes : ∀ p x, Eff.file p x ∈ es → ∃ t, get s.files p = some t ∧ ut x = ut t) :
    ∀ c : Store Page, (∀ p, (get c.files p).map ut = (get s.files p).map ut) →
      ∀ p, (get (applyAll c es).files p).map ut = (get s.files p).map ut := by
  induction es with
  | nil => exact fun _ hc => hc
  | cons e es ih =>
    intro c hc
    apply ih (fun p x hm => hes p x (List.mem_cons_of_mem _ hm))
    cases e with
    | file p x =>
      intro q
      show (get (put c.files p x) q).map ut = _
      rw [get_put]
      split
      · next e =>
        obtain ⟨t, ht, hx⟩ := hes p x List.mem_cons_self
        rw [e, ht]
        exact congrArg some hx
      · exact hc q
    | _ => exact hc

theorem wb_file {α : Type} {sem : Sem Page} (ut : Text → α) (hut : ∀ old t, ut (sem.process old t).1 = ut t)
    (mid : Path → Text → Option Text) (hmid : ∀ p t m, mid p t = some m → ut m = ut t) {s : Store Page}
    (hu : Uniq s.files) {p : Path} {x : Text} (hm : Eff.file p x ∈ (pending sem s).flatMap (wb mid)) :
    ∃ t, get s.files p = some t ∧ ut x = ut t := by
  obtain ⟨w, hw, hx⟩ := List.mem_flatMap.1 hm
  obtain ⟨w1, _, w3⟩ := (mem_work hu).1 (mem_pending.1 hw).1
  rw [wb_eq] at hx
  simp only [List.mem_append, List.mem_map, List.mem_singleton, Option.mem_toList, Eff.file.injEq, reduceCtorEq,
    or_false] at hx
  obtain ⟨m, hm', rfl, rfl⟩ := hx
  refine ⟨_, w1, ?_⟩
  rcases hm' with hm' | rfl
  · exact hmid _ _ _ hm'
  · rw [w3]; exact hut _ _

theorem crashReindex_userText {α : Type} {sem : Sem Page} (ut : Text → α)
    (hut : ∀ old t, ut (sem.process old t).1 = ut t) (env : Env Page)
    (hmid : ∀ p t m, env.mid p t = some m → ut m = ut t) (s : Store Page) (hu : Uniq s.files) (k : Nat) :
    ∀ p, (get (crashReindex sem env s k).files p).map ut = (get s.files p).map ut := by
  refine applyAll_userText ut s _ (fun p x hm => ?_) s (fun _ => rfl)
  have hm := List.mem_of_mem_take hm
  rw [reindexEffs_eq] at hm
  rcases List.mem_append.1 hm with h | h
  · cases (commits_mem sem env hu h).1
  · rcases List.mem_cons.1 h with h | h
    · cases h
    · exact wb_file ut hut env.mid hmid hu h

theorem recover_userText {α : Type} {sem : Sem Page} (ut : Text → α) (hut : ∀ old t, ut (sem.process old t).1 = ut t)
    (c : Store Page) (hu : Uniq c.files) (p : Path) :
    (get (reindexPlain sem c).files p).map ut = (get c.files p).map ut := by
  cases hf : get c.files p with
  | none => rw [Store.files_of_at (reindexPlain_none sem hu hf)]
  | some t =>
    by_cases hh : get c.hashes p = some t
    · rw [Store.files_of_at (reindexPlain_same sem hu hf hh), hf]
    · rw [Store.files_of_at (reindexPlain_changed sem hu hf hh), Option.map_some, hut, Option.map_some]

theorem isSome_of_map {α : Type} {ut : Text → α} {a b : Option Text} (h : a.map ut = b.map ut) :
    a.isSome = b.isSome := by
  rw [← Option.isSome_map (f := ut), h, Option.isSome_map]

theorem work_blank (sem : Sem Page) (s : Store Page) :
    work sem (blank s) = s.files.map (fun kv => (kv.1, kv.2, sem.process none kv.2)) := by
  unfold work
  rw [show changed (blank s) = s.files from List.filter_eq_self.2 (fun _ _ => rfl)]
  rfl

theorem createEffs_eq (sem : Sem Page) (s : Store Page) :
    createEffs sem s = Eff.dbReset :: Eff.hashAll s.files ::
      Eff.dbPutAll ((work sem (blank s)).map (fun x => (x.1, x.2.2.2))) ::
      (pending sem (blank s)).flatMap (wb (fun _ _ => none)) := by
  unfold createEffs pending
  rw [work_blank]
  rfl

/-- the store from which the write-backs of `db create` start: after its first three effects -/
def createWbStart (sem : Sem Page) (s : Store Page) : Store Page :=
  { files := s.files, db := (work sem (blank s)).map (fun x => (x.1, x.2.2.2)), hashes := s.files }

theorem createWbStart_final (sem : Sem Page) {s : Store Page} (hu : Uniq s.files) (q : Path) :
    get (createWbStart sem s).db q = get (create sem s).db q ∧
      (q ∉ (pending sem (blank s)).map (·.1) → (createWbStart sem s).at q = (create sem s).at q) := by
  have hd : get (createWbStart sem s).db q = get (create sem s).db q := by
    show get ((work sem (blank s)).map (fun x => (x.1, x.2.2.2))) q = _
    rw [work_blank, List.map_map]
    refine (get_map_val (fun t => (sem.process none t).2) s.files q).trans ?_
    rw [create_eq]
    cases hf : get s.files q with
    | none => rw [Store.db_of_at (reindexPlain_none sem (s := blank s) hu hf)]; rfl
    | some t => rw [Store.db_of_at (reindexPlain_changed sem (s := blank s) hu hf nofun)]; rfl
  refine ⟨hd, fun hq => Store.at_ext ?_ hd ?_⟩
  · exact (reindexPlain_files sem (s := blank s) hu hq).1.symm
  · exact (reindexPlain_files sem (s := blank s) hu hq).2.symm

theorem createEffs_agreeAt (sem : Sem Page) {s : Store Page} (hu : Uniq s.files) (q : Path) :
    (applyAll s (createEffs sem s)).at q = (create sem s).at q := by
  rw [createEffs_eq]
  show (applyAll (createWbStart sem s) _).at q = _
  exact (writeback_sim (s := blank s) sem _ hu (createWbStart_final sem hu) q).2

theorem crashCreate_userText {α : Type} {sem : Sem Page} (ut : Text → α)
    (hut : ∀ old t, ut (sem.process old t).1 = ut t) (s : Store Page) (hu : Uniq s.files) (k : Nat) :
    ∀ p, (get (crashCreate sem s k).files p).map ut = (get s.files p).map ut := by
  refine applyAll_userText ut s _ (fun p x hm => ?_) s (fun _ => rfl)
  have hm := List.mem_of_mem_take hm
  rw [createEffs_eq] at hm
  simp only [List.mem_cons, reduceCtorEq, false_or] at hm
  exact wb_file (s := blank s) ut hut _ (fun _ _ _ h => by cases h) hu hm

end ZorgVerif.Crash
