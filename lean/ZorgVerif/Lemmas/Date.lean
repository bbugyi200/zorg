import ZorgVerif.Model.Date
import ZorgVerif.Lemmas.Basic
/-! `nextDay` and `prevDay` are inverse on valid dates, hence `subDays n (addDays n t) = t`; the month functions compute on the
month count `y * 12 + (m - 1)` and clamp the day (`addMonths_spec`, `subMonths_spec`), and validity follows from that
(`valid_of_clamped`); both date formats are `padNat` fields, which `natOfDigits_padNat` reads back. -/
namespace ZorgVerif
namespace Date

theorem beq_iff (a b : Date) : (a == b) = true ↔ a = b := by
  cases a; cases b
  simp [BEq.beq, instBEqDate.beq]

theorem bne_iff (a b : Date) : (a != b) = true ↔ a ≠ b := by
  simp [bne, ← beq_iff]

theorem daysIn_bounds (y m : Nat) : 28 ≤ daysIn y m ∧ daysIn y m ≤ 31 := by
  unfold daysIn
  split
  · split <;> omega
  · split <;> omega

theorem daysIn_12 (y : Nat) : daysIn y 12 = 31 := by
  simp [daysIn]

theorem one_le_daysIn (y m : Nat) : 1 ≤ daysIn y m := Nat.le_trans (by decide) (daysIn_bounds y m).1

theorem valid_iff (t : Date) :
    t.valid = true ↔ 1 ≤ t.y ∧ t.y ≤ 9999 ∧ 1 ≤ t.m ∧ t.m ≤ 12 ∧ 1 ≤ t.d ∧ t.d ≤ daysIn t.y t.m := by
  simp only [valid, Bool.and_eq_true, decide_eq_true_eq, and_assoc]

theorem nextDay_valid (t : Date) (h : t.valid = true) (hy : t.y < 9999) : (nextDay t).valid = true := by
  obtain ⟨hy1, -, hm1, hm12, -, -⟩ := (valid_iff t).1 h
  rw [valid_iff]
  unfold nextDay
  split
  · exact ⟨hy1, Nat.le_of_lt hy, hm1, hm12, Nat.succ_pos _, ‹_›⟩
  · split
    · exact ⟨hy1, Nat.le_of_lt hy, Nat.succ_pos _, ‹_›, Nat.le_refl _, one_le_daysIn _ _⟩
    · exact ⟨Nat.succ_pos _, hy, Nat.le_refl _, (by decide : 1 ≤ 12), Nat.le_refl _, one_le_daysIn _ _⟩

theorem prevDay_valid (t : Date) (h : t.valid = true) (hy : 1 < t.y) : (prevDay t).valid = true := by
  obtain ⟨hy1, hy2, hm1, hm12, -, hd⟩ := (valid_iff t).1 h
  rw [valid_iff]
  unfold prevDay
  split
  · exact ⟨hy1, hy2, hm1, hm12, Nat.le_sub_one_of_lt ‹_›, Nat.le_trans (Nat.sub_le _ _) hd⟩
  · split
    · exact ⟨hy1, hy2, Nat.le_sub_one_of_lt ‹_›, Nat.le_trans (Nat.sub_le _ _) hm12, one_le_daysIn _ _,
        Nat.le_refl _⟩
    · exact ⟨Nat.le_sub_one_of_lt hy, Nat.le_trans (Nat.sub_le _ _) hy2, (by decide : 1 ≤ 12), Nat.le_refl _,
        (by decide : 1 ≤ 31), Nat.le_of_eq (daysIn_12 _).symm⟩

theorem prevDay_nextDay (t : Date) (h : t.valid = true) : prevDay (nextDay t) = t := by
  obtain ⟨-, -, hm1, hm12, hd1, hd⟩ := (valid_iff t).1 h
  obtain ⟨y, m, d⟩ := t
  unfold nextDay
  split
  · exact if_pos (Nat.succ_lt_succ hd1)
  · have hd : daysIn y m = d := Nat.le_antisymm (Nat.le_of_not_lt ‹_›) hd
    split
    · rw [prevDay, if_neg (Nat.lt_irrefl 1), if_pos (Nat.succ_lt_succ hm1)]
      exact congrArg _ hd
    · have hm : 12 = m := Nat.le_antisymm (Nat.le_of_not_lt ‹_›) hm12
      subst hm
      rw [prevDay, if_neg (Nat.lt_irrefl 1), if_neg (Nat.lt_irrefl 1)]
      exact congrArg _ ((daysIn_12 y).symm.trans hd)

/-- no lower bound on the year: on 0001-01-01 `prevDay` leaves the valid range (year 0) and `nextDay` comes back -/
theorem nextDay_prevDay' (t : Date) (h : t.valid = true) : nextDay (prevDay t) = t := by
  obtain ⟨hy1, -, hm1, hm12, hd1, hd⟩ := (valid_iff t).1 h
  obtain ⟨y, m, d⟩ := t
  unfold prevDay
  split
  · rw [nextDay, if_pos (Nat.lt_of_lt_of_le (Nat.sub_lt hd1 Nat.one_pos) hd)]
    exact congrArg _ (Nat.sub_add_cancel hd1)
  · have hd1 : 1 = d := Nat.le_antisymm hd1 (Nat.le_of_not_lt ‹_›)
    subst hd1
    split
    · rw [nextDay, if_neg (Nat.lt_irrefl _), if_pos (Nat.lt_of_lt_of_le (Nat.sub_lt hm1 Nat.one_pos) hm12)]
      exact congrArg (Date.mk y · 1) (Nat.sub_add_cancel hm1)
    · have hm : 1 = m := Nat.le_antisymm hm1 (Nat.le_of_not_lt ‹_›)
      subst hm
      rw [nextDay, if_neg (Nat.not_lt_of_le (Nat.le_of_eq (daysIn_12 _))), if_neg (Nat.lt_irrefl 12)]
      exact congrArg (Date.mk · 1 1) (Nat.sub_add_cancel hy1)

theorem nextDay_y (t : Date) : t.y ≤ (nextDay t).y ∧ (nextDay t).y ≤ t.y + 1 := by
  unfold nextDay
  split
  · exact ⟨Nat.le_refl _, Nat.le_succ _⟩
  · split
    · exact ⟨Nat.le_refl _, Nat.le_succ _⟩
    · exact ⟨Nat.le_succ _, Nat.le_refl _⟩

theorem nextDay_y_ge (t : Date) : t.y ≤ (nextDay t).y := (nextDay_y t).1

theorem addDays_zero (t : Date) : addDays 0 t = t := rfl
theorem addDays_succ (n : Nat) (t : Date) : addDays (n + 1) t = addDays n (nextDay t) := rfl
theorem subDays_zero (t : Date) : subDays 0 t = t := rfl
theorem subDays_succ (n : Nat) (t : Date) : subDays (n + 1) t = subDays n (prevDay t) := rfl

theorem addDays_y_le (n : Nat) (t : Date) : (addDays n t).y ≤ t.y + n := by
  induction n generalizing t with
  | zero => simp [addDays_zero]
  | succ n ih =>
    rw [addDays_succ]
    have := ih (nextDay t)
    have := (nextDay_y t).2
    omega

theorem addDays_valid (n : Nat) (t : Date) (h : t.valid = true) (hy : t.y + n < 9999) :
    (addDays n t).valid = true := by
  induction n generalizing t with
  | zero => exact h
  | succ n ih =>
    rw [addDays_succ]
    apply ih
    · exact nextDay_valid t h (by omega)
    · have := (nextDay_y t).2; omega

theorem addDays_add (a b : Nat) (t : Date) : addDays (a + b) t = addDays b (addDays a t) := by
  induction a generalizing t with
  | zero => simp [addDays_zero]
  | succ a ih =>
    rw [Nat.add_right_comm, addDays_succ, addDays_succ, ih]

theorem subDays_addDays (n : Nat) (t : Date) (h : t.valid = true) (hy : t.y + n < 9999) :
    subDays n (addDays n t) = t := by
  induction n with
  | zero => rfl
  | succ n ih =>
    have hv := addDays_valid n t h (by omega)
    rw [addDays_add n 1, subDays_succ]
    -- `addDays 1` is `nextDay`
    show subDays n (prevDay (nextDay (addDays n t))) = t
    rw [prevDay_nextDay _ hv, ih (by omega)]

theorem addMonths_spec (n : Nat) (t : Date) :
    let r := addMonths n t
    r.y * 12 + (r.m - 1) = t.y * 12 + (t.m - 1) + n ∧ 1 ≤ r.m ∧ r.m ≤ 12 ∧ r.d = min t.d (daysIn r.y r.m) :=
  ⟨by simp only [addMonths, clamp, Nat.add_mul, Nat.add_sub_cancel, Nat.add_assoc, Nat.div_add_mod'],
    Nat.succ_pos _, Nat.mod_lt _ (by decide), rfl⟩

theorem subMonths_spec (n : Nat) (t r : Date) (hr : subMonths n t = some r) :
    r.y * 12 + (r.m - 1) + n = t.y * 12 + (t.m - 1) ∧ 1 ≤ r.m ∧ r.m ≤ 12 ∧ 1 ≤ r.y ∧
      r.d = min t.d (daysIn r.y r.m) := by
  simp only [subMonths] at hr
  split at hr
  · cases hr
  · cases hr
    have hn : n + 12 ≤ t.y * 12 + (t.m - 1) := Nat.le_of_not_lt ‹_›
    refine ⟨?_, Nat.succ_pos _, Nat.mod_lt _ (by decide), ?_, rfl⟩
    · simp only [clamp, Nat.add_sub_cancel, Nat.div_add_mod']
      exact Nat.sub_add_cancel (Nat.le_trans (Nat.le_add_right n 12) hn)
    · exact (Nat.le_div_iff_mul_le (by decide)).2 (Nat.le_sub_of_add_le (by rw [Nat.add_comm]; exact hn))

theorem valid_of_clamped (t r : Date) (h : t.valid = true) (hy : 1 ≤ r.y) (hy' : r.y ≤ 9999) (hm : 1 ≤ r.m)
    (hm' : r.m ≤ 12) (hd : r.d = min t.d (daysIn r.y r.m)) : r.valid = true := by
  rw [valid_iff] at h ⊢
  rw [hd]
  exact ⟨hy, hy', hm, hm', Nat.le_min.2 ⟨h.2.2.2.2.1, one_le_daysIn _ _⟩, Nat.min_le_right _ _⟩

theorem addMonths_valid (n : Nat) (t : Date) (h : t.valid = true) (hy : (addMonths n t).y ≤ 9999) :
    (addMonths n t).valid = true := by
  obtain ⟨_, h2, h3, h4⟩ := addMonths_spec n t
  exact valid_of_clamped t _ h (Nat.le_trans ((valid_iff t).1 h).1 (Nat.le_add_right _ _)) hy h2 h3 h4

theorem subMonths_valid (n : Nat) (t : Date) (h : t.valid = true) (r : Date) (hr : subMonths n t = some r) :
    r.valid = true := by
  obtain ⟨h1, h2, h3, h4, h5⟩ := subMonths_spec n t r hr
  obtain ⟨-, hy, -, hm, -, -⟩ := (valid_iff t).1 h
  -- `r.y ≤ 9999` is linear in `h1`, `hy`, `hm`; with `h5` in sight `omega` would split on its `min` first
  exact valid_of_clamped t r h h4 (by clear h5; omega) h2 h3 h5

theorem addYears_spec (n : Nat) (t : Date) : addYears n t = ⟨t.y + n, t.m, min t.d (daysIn (t.y + n) t.m)⟩ := rfl

theorem addYears_eq_addMonths (n : Nat) (t : Date) (h : t.valid = true) : addYears n t = addMonths (12 * n) t := by
  obtain ⟨-, -, hm1, hm12, -, -⟩ := (valid_iff t).1 h
  have hlt : t.m - 1 < 12 := Nat.lt_of_lt_of_le (Nat.sub_lt hm1 Nat.one_pos) hm12
  rw [addYears, addMonths, Nat.add_mul_div_left _ _ (by decide), Nat.add_mul_mod_self_left, Nat.div_eq_of_lt hlt,
    Nat.mod_eq_of_lt hlt, Nat.zero_add, Nat.sub_add_cancel hm1]

theorem padNat_length (w n : Nat) : (padNat w n).length = w := by
  induction w generalizing n with
  | zero => rfl
  | succ w ih => simp [padNat, ih]

theorem padNat_two (n : Nat) : padNat 2 n = [digitChar (n / 10), digitChar n] := by
  simp [padNat]

theorem padNat_four (n : Nat) :
    padNat 4 n = [digitChar (n / 10 / 10 / 10), digitChar (n / 10 / 10), digitChar (n / 10), digitChar n] := by
  simp [padNat]

theorem natOfDigits_snoc (s : Str) (c : Char) : natOfDigits (s ++ [c]) = natOfDigits s * 10 + digitVal c := by
  simp [natOfDigits]

theorem natOfDigits_padNat (w n : Nat) : natOfDigits (padNat w n) = n % 10 ^ w := by
  induction w generalizing n with
  | zero => simp [padNat, natOfDigits, Nat.mod_one]
  | succ w ih =>
    rw [padNat, natOfDigits_snoc, ih, digitVal_digitChar, Nat.pow_succ', Nat.mod_mul, Nat.add_comm, Nat.mul_comm]

theorem fmtShort_eq (t : Date) : fmtShort t = padNat 2 t.y ++ padNat 2 t.m ++ padNat 2 t.d := by
  simp [fmtShort, fmtYmd, padNat]

theorem fmtShort_length (t : Date) : (fmtShort t).length = 6 := by
  simp [fmtShort_eq, padNat_length]

theorem fmtLong_length (t : Date) : (fmtLong t).length = 10 := by
  simp [fmtLong, padNat_length]

theorem valid_lt (t : Date) (h : t.valid = true) : t.y < 10 ^ 4 ∧ t.m < 10 ^ 2 ∧ t.d < 10 ^ 2 := by
  obtain ⟨-, hy, -, hm, -, hd⟩ := (valid_iff t).1 h
  exact ⟨Nat.lt_succ_of_le hy, Nat.lt_of_le_of_lt hm (by decide),
    Nat.lt_of_le_of_lt (Nat.le_trans hd (daysIn_bounds _ _).2) (by decide)⟩

/-- short dates round-trip inside the century they are read into -/
theorem parseShort_fmtShort (t : Date) (h : t.valid = true) (h1 : 2000 ≤ t.y) (h2 : t.y ≤ 2099) :
    parseShort (fmtShort t) = some t := by
  obtain ⟨-, hm, hd⟩ := valid_lt t h
  obtain ⟨y, m, d⟩ := t
  have e : parseShort (padNat 2 y ++ padNat 2 m ++ padNat 2 d) =
      (let t : Date := ⟨2000 + natOfDigits (padNat 2 y), natOfDigits (padNat 2 m), natOfDigits (padNat 2 d)⟩
       if t.valid then some t else none) := by simp [padNat_two, parseShort]
  have hy : 2000 + y % 10 ^ 2 = y := by
    simp only at h1 h2
    omega
  simp only [fmtShort_eq, e, natOfDigits_padNat, Nat.mod_eq_of_lt hm, Nat.mod_eq_of_lt hd, hy, h, if_true]

theorem parseLong_fmtLong (t : Date) (h : t.valid = true) : parseLong (fmtLong t) = some t := by
  obtain ⟨hy, hm, hd⟩ := valid_lt t h
  obtain ⟨y, m, d⟩ := t
  have e : parseLong (fmtLong ⟨y, m, d⟩) =
      (let t : Date := ⟨natOfDigits (padNat 4 y), natOfDigits (padNat 2 m), natOfDigits (padNat 2 d)⟩
       if t.valid then some t else none) := by simp [fmtLong, padNat_two, padNat_four, parseLong]
  simp only [e, natOfDigits_padNat, Nat.mod_eq_of_lt hy, Nat.mod_eq_of_lt hm, Nat.mod_eq_of_lt hd, h, if_true]

/-- outside the 2000–2099 window the short form does *not* round-trip: it is read back into 20xx -/
example : parseShort (fmtShort ⟨1999, 12, 31⟩) = some ⟨2099, 12, 31⟩ := by decide +kernel

end Date
end ZorgVerif

#print axioms ZorgVerif.Date.parseShort_fmtShort
#print axioms ZorgVerif.Date.addMonths_spec
#print axioms ZorgVerif.Date.subDays_addDays
